import DSV.Props.C01
import DSV.Props.C02
import DSV.Props.C03
import DSV.Props.C04
import DSV.Props.C05
import DSV.Props.C06
import DSV.Props.C07
import DSV.Props.C08
import DSV.Props.C09
import DSV.Props.C10
import DSV.Props.C11
import DSV.Props.C12
import DSV.Props.C13
import DSV.Props.C14
import DSV.Props.C15
import DSV.Props.C16
import DSV.Props.C17
import DSV.Props.C18
import DSV.Props.C19
import DSV.Props.C20
/-! Root of the library: imports every property file, so that `lake build` checks the whole development. -/
