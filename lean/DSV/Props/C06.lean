import DSV.Proofs.SkelTx
import DSV.Proofs.SkelGc
import DSV.Proofs.GcRace
/-!
C06 — garbage collection is safe against concurrently committing transactions.
Model: `DSV/Model/GcRace.lean` — one collection run × any number of transactions, every interleaving; transaction files
may already be older than the grace period when they commit; files written during the run are young.
-/
namespace DSV.GcRace

/-- **gc_concurrent_safe** — with the collector loading the in-flight markers BEFORE it reads the metadata: in every
reachable state of every interleaving, every file referenced by a committed snapshot (committed before, during or after
the run) exists and was never deleted by the collector. -/
theorem gc_concurrent_safe (u : List Nat) (files : Nat → Option FileSt) (committed : List Nat)
    (h0 : InitOk files committed u) (s : Sys) (hr : Reach true u files committed s) :
    ∀ f ∈ s.committed, f ∉ s.deleted ∧ ∃ st, s.files f = some st ∧ st.exists_ = true := by
  have h := inv_reach u files committed h0 s hr
  intro f hf
  obtain ⟨st, e1, e2, -⟩ := h.C f hf
  exact ⟨h.not_deleted e1, st, e1, e2⟩

/-- **inflight_protected** — a file of a live transaction is never deleted by the collector either. -/
theorem inflight_protected (u : List Nat) (files : Nat → Option FileSt) (committed : List Nat)
    (h0 : InitOk files committed u) (s : Sys) (hr : Reach true u files committed s) (f : Nat) (st : FileSt)
    (hf : s.files f = some st) (ho : st.owner ≥ 1) : f ∉ s.deleted := by
  have _ := ho  -- not needed: `Inv.not_deleted` holds of every file that has a record
  exact (inv_reach u files committed h0 s hr).not_deleted hf

/-- the schedule of the defect found: the collector reads the metadata, THEN the transaction (whose data file is already
older than the grace period) commits and removes its marker, THEN the collector loads the markers -/
def metadataFirstRace : List (Nat × Act) :=
  [(1, .txMarker 5 true), (1, .txWrite 5), (9, .gcReadMeta), (1, .txFlip), (1, .txUnmark 5), (1, .txFinish),
   (9, .gcReadMarkers), (9, .gcDelete 5), (9, .gcFinish)]

/-- **metadata_first_refuted** (regression witness; the code as found) — reading the metadata before the markers lets a
commit fall between the two reads: file 5 is committed and deleted. -/
theorem metadata_first_refuted :
    (run false [5] (init (fun _ => none) []) metadataFirstRace).map (fun s => (s.committed, s.deleted)) = some ([5], [5]) := by
  decide +kernel

/-- Non-vacuity: with markers first the same transaction and collector steps (in the order that order allows) delete nothing,
while a genuine old orphan (file 6) is still collected. -/
example : (run true [5, 6]
    (init (fun f => if f = 6 then some ⟨true, false, 0, true, false⟩ else none) [])
    [(1, .txMarker 5 true), (1, .txWrite 5), (9, .gcReadMarkers), (1, .txFlip), (1, .txUnmark 5), (1, .txFinish),
     (9, .gcReadMeta), (9, .gcDelete 5), (9, .gcDelete 6), (9, .gcFinish)]).map (fun s => (s.committed, s.deleted)) = some ([5], [6]) := by
  decide +kernel

/-- a pre-built file queued by `append_files` as found: it exists, is old, belongs to open transaction 1 — and has NO marker -/
def prebuiltUnmarked : Nat → Option FileSt := fun f => if f = 7 then some ⟨true, false, 1, true, false⟩ else none

/-- **prebuilt_unmarked_refuted** (regression witness; `append_files` as found, repaired by c834a8f) — with the repaired
read order: the collector protects nothing for file 7, deletes it, and transaction 1 then commits it. -/
theorem prebuilt_unmarked_refuted :
    (run true [7] (init prebuiltUnmarked [])
      [(9, .gcReadMarkers), (9, .gcReadMeta), (9, .gcDelete 7), (1, .txFlip), (1, .txFinish), (9, .gcFinish)]).map
      (fun s => (s.deleted, s.tx 1)) = some ([7], .finished) := by
  decide +kernel

/-- the same file WITH its marker (what `append_files` registers now) survives the same run -/
example : (run true [7] (init (fun f => if f = 7 then some ⟨true, true, 1, true, false⟩ else none) [])
      [(9, .gcReadMarkers), (9, .gcReadMeta), (9, .gcDelete 7), (1, .txFlip), (1, .txUnmark 7), (1, .txFinish), (9, .gcFinish)]).map
      (fun s => (s.committed, s.deleted)) = some ([7], []) := by
  decide +kernel

/-! ### a transaction that STARTS during the run and adopts an old pre-built file (open finding) -/

/-- an old pre-built file nobody owns yet -/
def prebuiltOrphan : Nat → Option FileSt := fun f => if f = 7 then some ⟨true, false, 0, true, false⟩ else none

/-- **late_adoption_refuted** (open finding, the code as it is) — the collector reads the markers and the metadata; THEN transaction 1
queues the old pre-built file 7 (marker registered now) and commits; the collector's sweep finds 7 neither protected nor reachable
in what it read, and old: the file of a snapshot committed during the run is deleted. The hypothesis of `gc_concurrent_safe` that
excludes this is that transactions register FRESH files (`txMarker` on a name not yet on storage). -/
theorem late_adoption_refuted :
    ((run true [7] (init prebuiltOrphan []) [(9, .gcReadMarkers), (9, .gcReadMeta)]).bind fun s =>
      (adopt s 1 7).bind fun s => run true [7] s [(1, .txFlip), (9, .gcDelete 7), (1, .txFinish), (9, .gcFinish)]).map
      (fun s => (s.committed, s.deleted)) = some ([7], [7]) := by
  decide +kernel

/-- the same adoption BEFORE the collector reads the markers is safe: the marker protects the file until the commit makes it reachable -/
example :
    ((adopt (init prebuiltOrphan []) 1 7).bind fun s =>
      run true [7] s [(9, .gcReadMarkers), (9, .gcReadMeta), (1, .txFlip), (9, .gcDelete 7), (1, .txUnmark 7), (1, .txFinish), (9, .gcFinish)]).map
      (fun s => (s.committed, s.deleted)) = some ([7], []) := by
  decide +kernel

end DSV.GcRace

/-! ## Tie to the current source: the order of the collector's reads and of the transaction's marker protocol -/
namespace DSV.Src.C06
open DSV.Skel DSV.Generated.Skel DSV.GcRace

/-- **source_markers_first** — in the CURRENT source of `GarbageCollector.collect` the in-flight markers are loaded before
the metadata is read (the model's `markersFirst`). -/
theorem source_markers_first : markersFirstOf gcCollect = true := by
  unfold markersFirstOf
  rw [gcCollect_steps]
  decide +kernel

/-- **gc_concurrent_safe_source** — `gc_concurrent_safe` with the read order READ OFF the current source. -/
theorem gc_concurrent_safe_source (u : List Nat) (files : Nat → Option FileSt) (committed : List Nat)
    (h0 : InitOk files committed u) (s : Sys) (hr : Reach (markersFirstOf gcCollect) u files committed s) :
    ∀ f ∈ s.committed, f ∉ s.deleted ∧ ∃ st, s.files f = some st ∧ st.exists_ = true := by
  rw [source_markers_first] at hr
  exact gc_concurrent_safe u files committed h0 s hr

/-- **source_marker_before_file** — `append_data` registers the marker before it writes the data file and queues the file
only afterwards; `append_files` registers the marker before it looks at / persists the pre-built file. -/
theorem source_marker_before_file :
    project txVoc txAppendData = ["marker", "write", "queue"] ∧
    project txVoc txAppendFiles = ["marker", "exists", "persist", "schema", "queue"] :=
  ⟨by decide +kernel, txAppendFiles_steps⟩

/-- **source_unmark_after_commit** — `Transaction.commit` calls the marker-removing `_finish_committed` only after the commit
call returned (or for an empty transaction, before any), never in a failure handler. -/
theorem source_unmark_after_commit :
    dedupAdj ((project txVoc txCommit).filter (fun x => x == "commit" || x == "finish")) = ["finish", "commit", "finish"] ∧
    ((project txVoc txCommit).dropWhile (· != "onConflict")).contains "finish" = false := by
  rw [txCommit_steps]; decide +kernel

end DSV.Src.C06
