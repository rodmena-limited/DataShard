import DSV.Model.Gc
import DSV.Proofs.Marker
/-!
C05 — garbage collection never deletes anything reachable or in flight (path handling + delete decision).
-/
namespace DSV.Gc

/-- **norm_agrees_refuted** (regression witness) — the normaliser as found strips the table location as a string
prefix: for a table located at `d`, the listed path `data/f` and the manifest spelling `/data/f` of the SAME file
normalise differently, so every live data file looks like an orphan. -/
theorem norm_agrees_refuted :
    normalizeOld ['d'] ['d', 'a', 't', 'a', '/', 'f'] ≠ normalizeOld ['d'] ['/', 'd', 'a', 't', 'a', '/', 'f'] := by decide +kernel

/-- a library-written file: table-relative path under `data/` or `metadata/` -/
def LibPath (f : Str) : Prop := (∃ x, f = dataS ++ '/' :: x) ∨ (∃ x, f = metadataS ++ '/' :: x)

theorem libPath_not_abs {f : Str} (h : LibPath f) : isAbs f = false ∧ lstripSlash f = f := by
  rcases h with ⟨x, rfl⟩ | ⟨x, rfl⟩ <;> exact ⟨rfl, rfl⟩

theorem firstComponent_lib {f : Str} (h : LibPath f) :
    firstComponent ('/' :: f) = dataS ∨ firstComponent ('/' :: f) = metadataS := by
  rcases h with ⟨x, rfl⟩ | ⟨x, rfl⟩
  · exact Or.inl rfl
  · exact Or.inr rfl

theorem normalize_rel (tp real : Str) {p : Str} (h : isAbs p = false ∨ firstComponent p = dataS ∨ firstComponent p = metadataS) :
    normalize tp real p = lstripSlash p := by
  unfold normalize
  rcases h with h | h | h <;> simp [h]

/-- **norm_agrees (relative and Iceberg-style spellings)** — for every table location (relative, absolute, trailing slash,
a string prefix of `data` / `metadata`, …) the listed form `data/x` and the manifest form `/data/x` normalise to the same path. -/
theorem norm_agrees (tp real f : Str) (h : LibPath f) :
    normalize tp real f = f ∧ normalize tp real ('/' :: f) = f := by
  obtain ⟨h1, h2⟩ := libPath_not_abs h
  exact ⟨(normalize_rel tp real (.inl h1)).trans h2, (normalize_rel tp real (.inr (firstComponent_lib h))).trans h2⟩

/-- **norm_agrees (absolute spelling)** — a true absolute path under an absolute table root whose first component
is not `data` / `metadata` normalises to the same table-relative path. -/
theorem norm_agrees_abs (tp real f : Str) (h : LibPath f) (habs : isAbs tp = true)
    (hfc : firstComponent (rstripSlash tp ++ '/' :: f) ≠ dataS ∧ firstComponent (rstripSlash tp ++ '/' :: f) ≠ metadataS)
    (hp : isAbs (rstripSlash tp ++ '/' :: f) = true) :
    normalize tp real (rstripSlash tp ++ '/' :: f) = f := by
  simp [normalize, hp, hfc.1, hfc.2, habs, (libPath_not_abs h).2]

/-- the spellings under which a manifest / marker may name the library-written file `f` -/
def Denotes (tp : Str) (s f : Str) : Prop :=
  s = f ∨ s = '/' :: f ∨
  (s = rstripSlash tp ++ '/' :: f ∧ isAbs tp = true ∧ isAbs s = true ∧
    firstComponent s ≠ dataS ∧ firstComponent s ≠ metadataS)

theorem norm_denotes (tp real s f : Str) (hf : LibPath f) (hd : Denotes tp s f) : normalize tp real s = f := by
  rcases hd with rfl | rfl | ⟨rfl, h1, h2, h3, h4⟩
  · exact (norm_agrees tp real _ hf).1
  · exact (norm_agrees tp real f hf).2
  · exact norm_agrees_abs tp real f hf h1 ⟨h3, h4⟩ h2

theorem mem_gcPrefix {norm : Str → Str} {keep : List Str} {old : Str → Bool} {listing deleted : List Str}
    (h : gcPrefix norm keep old listing = some deleted) (f : Str) :
    f ∈ deleted ↔ f ∈ listing ∧ old f = true ∧ norm f ∉ keep := by
  unfold gcPrefix at h
  split at h
  · cases h
  · cases h
    simp [and_comm]

/-- **gc_safe** — for every table-location spelling, every listing, every grace decision and every set of manifest /
marker spellings: no listed library file that some reachable or protected entry denotes is deleted. -/
theorem gc_safe (tp real : Str) (live : List Str) (old : Str → Bool) (listing deleted : List Str)
    (h : gcPrefix (normalize tp real) (live.map (normalize tp real)) old listing = some deleted)
    (f : Str) (hf : LibPath f) (s : Str) (hs : s ∈ live) (hd : Denotes tp s f) : f ∉ deleted := by
  intro hm
  apply ((mem_gcPrefix h f).1 hm).2.2
  rw [(norm_agrees tp real f hf).1, ← norm_denotes tp real s f hf hd]
  exact List.mem_map_of_mem hs

/-- **gc_live** — a listed file that nothing reachable or protected normalises to, and that is older than the grace
period, is in fact deleted (when the run does not abort). -/
theorem gc_live (norm : Str → Str) (keep : List Str) (old : Str → Bool) (listing deleted : List Str)
    (h : gcPrefix norm keep old listing = some deleted) (f : Str) (hf : f ∈ listing)
    (hk : norm f ∉ keep) (ho : old f = true) : f ∈ deleted :=
  (mem_gcPrefix h f).2 ⟨hf, ho, hk⟩

/-- a deleted file was listed, is old and is not kept -/
theorem gc_deletes_only_old_unkept (norm : Str → Str) (keep : List Str) (old : Str → Bool) (listing deleted : List Str)
    (h : gcPrefix norm keep old listing = some deleted) (f : Str) (hf : f ∈ deleted) :
    f ∈ listing ∧ old f = true ∧ norm f ∉ keep :=
  (mem_gcPrefix h f).1 hf

/-- Non-vacuity: the prefix-clashing location `d`, a live file in Iceberg spelling, an old orphan: only the orphan goes. -/
example : gcPrefix (normalize ['d'] ['/', 'x', '/', 'd']) ([['/', 'd', 'a', 't', 'a', '/', 'l']].map (normalize ['d'] ['/', 'x', '/', 'd']))
    (fun _ => true) [['d', 'a', 't', 'a', '/', 'l'], ['d', 'a', 't', 'a', '/', 'o']] = some [['d', 'a', 't', 'a', '/', 'o']] := by decide +kernel

/-- **spellings_name_one_file** (repair 8435446) — on the local backend every accepted spelling of a pre-built file's path is compared
as the listed path it names; on object storage the spelling is left alone (it IS the key) -/
theorem spellings_name_one_file :
    referenced true [] [] "data//x.parquet".toList = "data/x.parquet".toList ∧
    referenced true [] [] "data/./x.parquet".toList = "data/x.parquet".toList ∧
    referenced true [] [] "/data/sub/../x.parquet".toList = "data/x.parquet".toList ∧
    referenced true [] [] "./data/x.parquet".toList = "data/x.parquet".toList ∧
    referenced false [] [] "data//x.parquet".toList = "data//x.parquet".toList := by
  -- the literals as explicit character lists first: `String.toList` itself is dear to evaluate in the kernel
  repeat rw [String.toList_ofList]
  decide +kernel

/-- canonical paths (what the library itself writes, what a listing returns) are left as they are -/
theorem referenced_s3_is_normalize (tp real p : Str) : referenced false tp real p = normalize tp real p := by
  simp [referenced]

/-- what the property excludes: comparing the raw spelling misses the listed file (the code as found) -/
theorem raw_spelling_misses_listed_file : normalize [] [] "data//x.parquet".toList ≠ "data/x.parquet".toList := by
  rw [String.toList_ofList, String.toList_ofList]
  decide +kernel

end DSV.Gc

/-! ### which marker protects which queued file (live transactions; repairs c834a8f, 0f909e5) -/
namespace DSV.Props.C05m
open DSV.Marker

/-- **queued_files_all_covered** — after `append_files` has run over a batch, EVERY path of the batch has its marker name among
the markers this transaction holds (whatever the naming scheme) -/
theorem queued_files_all_covered (name : Str → Str) (held paths : List Str) :
    ∀ p ∈ paths, name p ∈ (register name held paths).1 := by
  obtain ⟨new, -, hc, e⟩ := register_fold name paths held []
  rw [register, e]
  exact hc

/-- **separated_names_register_each** — a path whose marker name is not already held and is shared with no other path of the batch
gets a marker OF ITS OWN (it is not skipped as "already registered") -/
theorem separated_names_register_each (name : Str → Str) (held paths : List Str) (p : Str) (hp : p ∈ paths)
    (hnew : name p ∉ held) (hsep : ∀ q ∈ paths, name q = name p → q = p) : p ∈ (register name held paths).2 := by
  obtain ⟨new, hsub, hc, e⟩ := register_fold name paths held []
  rw [register, e]
  -- the name of `p` is held afterwards and was not before: some registered path `q` of the batch carries it, and `q = p`
  obtain ⟨q, hq, hn⟩ := List.mem_map.mp ((List.mem_append.mp (hc p hp)).resolve_left hnew)
  rw [← hsep q (hsub hq) hn]
  simpa using hq

def eu : Str := "/data/region=eu/part-0.parquet".toList
def us : Str := "/data/region=us/part-0.parquet".toList

/-- what the property excludes (the scheme as first repaired): with base-name-only markers the second of two files sharing a base
name is skipped — it has no marker of its own and the one marker's payload names the other file -/
theorem basename_markers_skip_second : (register markerNameBasename [] [eu, us]).2 = [eu] ∧
    markerNameBasename eu = markerNameBasename us := by
  have h : markerNameBasename eu = markerNameBasename us := by
    unfold eu us
    rw [String.toList_ofList, String.toList_ofList]
    decide +kernel
  exact ⟨by rw [register_pair, if_pos h.symm], h⟩

/-- with the digest-carrying names both are registered, for ANY digest function that tells the two paths apart -/
theorem digest_markers_register_both (digest : Str → Str) (h : digest (lstripSlash eu) ≠ digest (lstripSlash us)) :
    us ∈ (register (markerNamePrebuilt digest) [] [eu, us]).2 ∧ eu ∈ (register (markerNamePrebuilt digest) [] [eu, us]).2 := by
  have hne : markerNamePrebuilt digest us ≠ markerNamePrebuilt digest eu :=
    fun e => h (markerNamePrebuilt_digest_inj basename_markers_skip_second.2 e.symm)
  rw [register_pair, if_neg hne]
  simp

def flat : Str := "/data/shared.parquet".toList

/-- **transactions_do_not_share_markers** — two live transactions that queue the SAME pre-built file (even one lying directly in
data/) name their markers differently, provided their salted digests differ on it: one of them rolling back removes its own marker only -/
theorem transactions_do_not_share_markers (d1 d2 : Str → Str) (p : Str) (h : d1 (lstripSlash p) ≠ d2 (lstripSlash p)) :
    markerNamePrebuilt d1 p ≠ markerNamePrebuilt d2 p :=
  fun e => h (markerNamePrebuilt_digest_inj rfl e)

/-- what the property excludes (the scheme as repaired second, 0f909e5): with a digest of the path alone two transactions share the
marker of a file they both queued — whatever the digest function -/
theorem path_only_markers_are_shared (pd : Str → Str) : markerNamePathOnly pd flat = "shared.parquet".toList ∧
    markerNamePathOnly pd eu = markerNamePathOnly pd eu := by
  refine ⟨markerNamePathOnly_of_parent pd (parent := dataDir) ?_ (Or.inl rfl), rfl⟩
  unfold flat dataDir
  rw [String.toList_ofList, String.toList_ofList, String.toList_ofList]
  decide +kernel

/-- files the library itself writes keep their historical marker names (the digest is not consulted) -/
theorem library_marker_names_unchanged (digest : Str → Str) :
    markerName digest "data/auto_1f.parquet".toList = "auto_1f.parquet".toList ∧
    markerName digest "/metadata/manifests/manifest_7.avro".toList = "manifest_7.avro".toList := by
  refine ⟨markerName_of_parent digest (parent := dataDir) ?_ (Or.inl rfl),
          markerName_of_parent digest (parent := manifestsDir) ?_ (Or.inr rfl)⟩
  · unfold dataDir
    rw [String.toList_ofList, String.toList_ofList, String.toList_ofList]
    decide +kernel
  · unfold manifestsDir
    rw [String.toList_ofList, String.toList_ofList, String.toList_ofList]
    decide +kernel

end DSV.Props.C05m
