import DSV.Proofs.Backend
/-!
C20 — both storage backends implement the same contract.
-/
namespace DSV.Backend

/-- one step of the range reader observes exactly what the reference file observes, and moves to the same position -/
theorem step_refines (f : RF) (o : Op) :
    (stepRF f o).2.1 = (stepSpec f.size f.pos o).2 ∧
    (stepRF f o).1.pos = (stepSpec f.size f.pos o).1 ∧ (stepRF f o).1.size = f.size := by
  cases o with
  | tell => exact ⟨rfl, rfl, rfl⟩
  | seek off w =>
    simp only [stepRF, stepSpec, RF.seek]
    cases seekTarget f.size f.pos off w with
    | none => exact ⟨rfl, rfl, rfl⟩
    | some n => by_cases hn : n < 0 <;> simp [hn]
  | read want => rw [stepRF, RF.readinto_eq]; exact ⟨rfl, rfl, rfl⟩
  | readall => rw [stepRF, RF.readall_eq, RF.readinto_eq, Nat.min_self]; exact ⟨rfl, rfl, rfl⟩

/-- **range_reader_refines_file** — for every seek/read program (any length), every object size and every start
position, the seekable S3 reader reports the same positions, the same delivered byte ranges and the same errors
as an ordinary file over the same content (negative positions and invalid whence are errors in both). -/
theorem range_reader_refines_file (prog : List Op) :
    ∀ f : RF, (runRF f prog).map (·.1) = runSpec f.size f.pos prog := by
  induction prog with
  | nil => intro f; rfl
  | cons o os ih =>
    intro f
    obtain ⟨h1, h2, h3⟩ := step_refines f o
    simp only [runRF, runSpec, List.map_cons]
    rw [ih, h1, h2, h3]

/-- a ranged GET is issued only for a non-empty range inside the object, and it is exactly the range delivered -/
theorem step_range_in_bounds (f : RF) (o : Op) (a b : Nat) (h : (stepRF f o).2.2 = some (a, b)) :
    a ≤ b ∧ b < f.size ∧ ∃ n newPos, (stepRF f o).2.1 = .data a n newPos ∧ n = b - a + 1 := by
  cases o with
  | tell => cases h
  | seek off w => simp only [stepRF] at h; split at h <;> cases h
  | read want | readall =>
    simp only [stepRF, RF.readall_eq] at h ⊢
    obtain ⟨rfl, h1, h2, h3⟩ := RF.readinto_range f _ a b h
    exact ⟨h1, h2, _, _, rfl, h3⟩

/-- **ranges_in_bounds** — along every program, each requested range is non-empty and lies in `[0, size-1]`. -/
theorem ranges_in_bounds (prog : List Op) :
    ∀ (f : RF) (ob : Obs) (a b : Nat), (ob, some (a, b)) ∈ runRF f prog → a ≤ b ∧ b < f.size := by
  induction prog with
  | nil => exact fun _ _ _ _ h => nomatch h
  | cons o os ih =>
    intro f ob a b h
    rcases List.mem_cons.1 h with h | h
    · have hr : (stepRF f o).2.2 = some (a, b) := (congrArg Prod.snd h).symm
      obtain ⟨h1, h2, -⟩ := step_range_in_bounds f o a b hr
      exact ⟨h1, h2⟩
    · have hsize : (stepRF f o).1.size = f.size := (step_refines f o).2.2
      rw [← hsize]
      exact ih _ ob a b h

example : runRF ⟨10, 0⟩ [.seek 8 .set, .read 5, .seek (-20) .fromEnd, .read 1] =
    [(.pos 8, none), (.data 8 2 10, some (8, 9)), (.err, none), (.data 10 0 10, none)] := by decide +kernel

/-- **attempts_bounded** — never more than `max_retries + 1` attempts, whatever the sequence of failures. -/
theorem attempts_bounded (m : Nat) (as : List Attempt) : (retry m as).2 ≤ m + 1 :=
  Nat.zero_add (m + 1) ▸ retryLoop_used (m + 1) 0 as

/-- **retry_masks_transient** — up to `max_retries` transient failures before a success are invisible:
the caller gets exactly the value the successful attempt produced. -/
theorem retry_masks_transient (m k v : Nat) (rest : List Attempt) (hk : k ≤ m) :
    retry m (List.replicate k .transient ++ .success v :: rest) = (.ok v, k + 1) :=
  retry_transients m k hk _

/-- **permanent_fast_fail** — a permanent error surfaces at the attempt where it occurs: it is not retried
(attempt count = failures so far + 1) and not swallowed. -/
theorem permanent_fast_fail (m k : Nat) (rest : List Attempt) (hk : k ≤ m) :
    retry m (List.replicate k .transient ++ .permanent :: rest) = (.raisePermanent, k + 1) :=
  retry_transients m k hk _

/-- other exception types are not retried either -/
theorem nonretryable_fast_fail (m k : Nat) (rest : List Attempt) (hk : k ≤ m) :
    retry m (List.replicate k .transient ++ .nonRetryable :: rest) = (.raiseOther, k + 1) :=
  retry_transients m k hk _

/-- **retry_exhausted** — `max_retries + 1` transient failures in a row surface as an error after exactly that many attempts. -/
theorem retry_exhausted (m : Nat) (rest : List Attempt) :
    retry m (List.replicate (m + 1) .transient ++ rest) = (.raiseTransient, m + 1) := by
  rw [List.replicate_succ', List.append_assoc, retry_transients m m (Nat.le_refl m), Nat.sub_self]
  rfl

example : retry 5 [.transient, .transient, .permanent] = (.raisePermanent, 3) := by decide +kernel

/-- Full statement: for every set of files and every directory, the S3 listing equals the local listing. -/
def ListingAgrees (listS3 : List Path → Path → List Path) : Prop :=
  ∀ (files : List Path) (dir : Path), listS3 files dir = listLocal files dir

/-- **listing_agrees** (after fix e5ac46d) — for every set of files and every directory (well-formed names:
non-empty, no '/'), the S3 listing under `key(dir) + "/"` is exactly the local directory listing:
confined to the named directory, siblings sharing the name as a string prefix excluded. -/
theorem listing_agrees (files : List Path) (dir : Path)
    (hf : ∀ f ∈ files, WfPath f ∧ f ≠ []) (hd : WfPath dir) :
    listS3Dir files dir = listLocal files dir := by
  unfold listS3Dir listLocal
  cases dir with
  | nil =>
    refine (List.filter_eq_self.2 fun f hfm => ?_).symm
    simp [List.length_pos_iff, (hf f hfm).2]
  | cons n dr =>
    apply List.filter_congr
    intro f hfm
    rw [joinPath_sep _ (List.cons_ne_nil n dr), Bool.eq_iff_iff]
    simp only [List.isPrefixOf_iff_prefix, Bool.and_eq_true, decide_eq_true_eq]
    exact dirKey_prefix_iff (n :: dr) f (hf f hfm).2 hd (hf f hfm).1

/-- Non-vacuity + the sibling case: `data2/…` and `database.txt` are not listed under `data`. -/
example : listS3Dir [["data".toList, "x".toList], ["data2".toList, "y".toList], ["database.txt".toList]] ["data".toList]
    = [["data".toList, "x".toList]] := by
  repeat rw [String.toList_ofList]
  decide +kernel

/-- **listing_raw_refuted** (regression witness of the repaired defect) — string-prefix matching on the key (`list_files("data")` also returns `data2/x`). -/
theorem listing_raw_refuted : ¬ ListingAgrees listS3Raw := by
  intro h
  have := h [["data".toList, "x".toList], ["data2".toList, "y".toList]] ["data".toList]
  revert this
  decide +kernel

end DSV.Backend
