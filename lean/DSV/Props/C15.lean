import DSV.Model.Skeleton
import DSV.Generated.Skeleton
import DSV.Proofs.TxOps
import DSV.Proofs.Meta
/-!
C15 — table metadata stays well-formed through every history.
(C09's lookup theorems live here too: they are facts about the same algebra.)
-/
namespace DSV.Meta

/-- **wf_empty** — a freshly initialised table is well-formed. -/
theorem wf_empty : WF empty := empty_wf

/-- **wf_step** — every committed operation (append / delete commit with or without expiry, expiry alone,
snapshot deletion, retention property, metadata-log bound; any timestamps, any retention value) preserves
well-formedness: current is the root sentinel, a retained snapshot, or nothing with the table empty; ids distinct;
every parent a retained, strictly older, TRUE ancestor (ghost history) or nothing; sequence numbers ≤ last and strictly
increasing in commit order; the snapshot log lists retained snapshots in commit order. -/
theorem wf_step (m : Meta) (op : Op) (h : WF m) (hop : OpOk m op) : WF (step m op) := step_wf m op h hop

/-- **wf_history** — lifted to every history of operations (any length). -/
theorem wf_history (ops : List Op) (hops : OpsOk empty ops) : WF (run ops) := by
  have from_any : ∀ (ops : List Op) m, WF m → OpsOk m ops → WF (ops.foldl step m) := by
    intro ops
    induction ops with
    | nil => exact fun _ h _ => h
    | cons op rest ih => exact fun m h hok => ih _ (step_wf m op h hok.1) hok.2
  exact from_any ops empty empty_wf hops

/-- **last_seq_monotone** — the table's last sequence number never decreases. -/
theorem last_seq_monotone (m : Meta) (op : Op) : m.lastSeq ≤ (step m op).lastSeq :=
  step_preserves (C := fun m' => m.lastSeq ≤ m'.lastSeq) (Nat.le_refl _) op
    (hadd := fun _ _ _ _ => Nat.le_max_left _ _) (hexp := fun _ _ h => h)
    (hret := fun _ h => Nat.le_trans h (Nat.le_of_eq (retain_fields _).2.1.symm))
    (hdel := fun _ _ hd => Nat.le_of_eq (delSnap_keeps hd).2.2.symm)
    (hsetr := fun _ => Nat.le_refl _) (hsetp := fun _ => Nat.le_refl _)

/-- **repoint_correct** — for EVERY input forest (cycles and dangling parents in corrupt metadata included) each
survivor's new parent is nothing, the root sentinel, or a kept snapshot reachable from its old parent by parent links. -/
theorem repoint_correct (all kept : List Snap) :
    ∀ s ∈ repoint all kept, ∃ o ∈ kept, o.id = s.id ∧ Good all (kept.map (·.id)) o.parent s.parent := by
  intro s hs
  obtain ⟨o, ho, rfl⟩ := mem_repoint.1 hs
  exact ⟨o, ho, rfl, walk_sound _ _ _ _ _⟩

/-- **current_never_expired** — expiry (any cutoff) keeps the current snapshot and does not move the pointer. -/
theorem current_never_expired (c : Nat) (m : Meta) (i : Nat) (h : m.cur = P.id i) (hi : i ∈ m.ids) :
    (expire c m).cur = P.id i ∧ i ∈ (expire c m).ids := by
  obtain ⟨s, hs, rfl⟩ := List.mem_map.1 hi
  exact ⟨h, mem_expire_ids.2 ⟨s, hs, rfl, Or.inr h.symm⟩⟩

/-- retention (any count, any timestamps) keeps the current snapshot too -/
theorem current_never_retained_away (m : Meta) (i : Nat) (h : m.cur = P.id i) (hi : i ∈ m.ids) :
    (retain m).cur = P.id i ∧ i ∈ (retain m).ids := by
  refine ⟨(retain_fields m).1.trans h, ?_⟩
  rcases retain_cases m with e | ⟨ids, hcur, e⟩ <;> rw [e]
  · exact hi
  · obtain ⟨s, hs, rfl⟩ := List.mem_map.1 hi
    show s.id ∈ (repoint _ _).map (·.id)
    rw [repoint_ids]
    exact List.mem_map.2 ⟨s, List.mem_filter.2 ⟨(sortByTs_perm _).mem_iff.2 hs, hcur s hs h⟩, rfl⟩

/-- **mlog_bounded** — with a bound `k ≥ 1` configured, a commit never leaves more than `max k (old length)` entries,
and the log after the commit is a suffix of the old log plus the superseded version. -/
theorem mlog_bounded (now f : Nat) (base new : Meta) (k : Int) (hk : new.prevMax = some k) (h1 : 1 ≤ k)
    (hlen : (new.mlog.length : Int) ≤ k) :
    ((stamp now (some f) base new).mlog.length : Int) ≤ k ∧
    ((stamp now (some f) base new).mlog <:+ (new.mlog ++ [(base.lastUpdated, f)]) ∨
      (stamp now (some f) base new).mlog = new.mlog) := by
  rcases stamp_mlog now f base new k hk h1 with ⟨e, -⟩ | ⟨hl, hs⟩
  · exact ⟨by rw [e]; exact hlen, Or.inr e⟩
  · exact ⟨hl, Or.inl hs⟩

/-- **mlog_trimmed** — also after the bound was lowered under a longer log: a commit that appends an entry leaves at most `k`
entries (the newest ones), whatever the length before. -/
theorem mlog_trimmed (now f : Nat) (base new : Meta) (k : Int) (hk : new.prevMax = some k) (h1 : 1 ≤ k)
    (hne : ∀ e, new.mlog.getLast? = some e → (e.2 == f) = false) :
    ((stamp now (some f) base new).mlog.length : Int) ≤ k ∧
    (stamp now (some f) base new).mlog <:+ (new.mlog ++ [(base.lastUpdated, f)]) := by
  rcases stamp_mlog now f base new k hk h1 with ⟨-, e, he1, he2⟩ | h
  · rw [hne e he1] at he2; cases he2
  · exact h

/-- **rewrite_preserves_origin** — entries carried through a manifest rewrite keep their adding snapshot and
sequence number; **delete_exact** — exactly the named files disappear. -/
theorem rewrite_preserves_origin (es : List Entry) (deleted : List Nat) (same : Bool) (out : List Entry)
    (h : rewrite es deleted = some (same, out)) :
    (∀ e' ∈ out, ∃ e ∈ es, e'.file = e.file ∧ e'.addedSnap = e.addedSnap ∧ e'.seq = e.seq) ∧
    out.map (·.file) = (es.map (·.file)).filter (fun f => !deleted.contains f) := by
  rw [List.filter_map]
  rcases rewrite_cases es deleted with ⟨hs, e⟩ | ⟨-, e⟩ | e <;> rw [e] at h <;> cases h
  · exact ⟨fun e he => ⟨e, he, rfl, rfl, rfl⟩, (congrArg _ hs).symm⟩
  · refine ⟨fun e' he' => ?_, List.map_map⟩
    obtain ⟨e, he, rfl⟩ := List.mem_map.1 he'
    exact ⟨e, (List.mem_filter.1 he).1, rfl, rfl, rfl⟩

theorem rewrite_drops_only_when_all_deleted (es : List Entry) (deleted : List Nat)
    (h : rewrite es deleted = none) : ∀ e ∈ es, e.file ∈ deleted := by
  rcases rewrite_cases es deleted with ⟨-, e⟩ | ⟨hs, -⟩ | e
  · rw [e] at h; cases h
  · intro e he
    simpa using List.filter_eq_nil_iff.1 hs e he
  · rw [e] at h; cases h

/-! ### lookups (C09) -/

theorem lookup_by_id (m : Meta) (h : WF m) (s : Snap) (hs : s ∈ m.snaps) : byId s.id m = some s :=
  find?_id h.idsNodup hs

/-- **lookup_by_timestamp** — under non-decreasing commit timestamps (equal allowed) the result is the most recently
committed retained snapshot not newer than `t`; `none` iff there is none.
(`BornSorted`, `TsMono` are invariants of histories with a non-decreasing clock: `mono_step`.) -/
theorem lookup_by_timestamp (m : Meta) (h : WF m) (hs : BornSorted m) (hmono : TsMono m) (t : Nat) :
    (∀ r, byTime t m = some r → r ∈ m.snaps ∧ r.ts ≤ t ∧ ∀ s ∈ m.snaps, s.ts ≤ t → s.born ≤ r.born) ∧
    (byTime t m = none → ∀ s ∈ m.snaps, ¬ s.ts ≤ t) :=
  have _ := h  -- not needed
  byTime_spec m (chrono_iff.2 ⟨hs, hmono⟩) t

/-- with a non-decreasing clock (equal timestamps allowed) the hypotheses of `lookup_by_timestamp` are invariants -/
theorem mono_step (m : Meta) (op : Op) (h : WF m) (hb : BornSorted m) (ht : TsMono m) (hop : OpOk m op) (hm : OpMono m op) :
    BornSorted (step m op) ∧ TsMono (step m op) :=
  have _ := hop  -- not needed
  chrono_iff.1 (step_mono m op h (chrono_iff.2 ⟨hb, ht⟩) hm)

/-- **delete_current_repoints** — deleting the current snapshot moves the pointer to the most recently committed
survivor (or to nothing when none is left). -/
theorem delete_current_repoints (m m' : Meta) (h : WF m) (i : Nat) (hc : m.cur = P.id i) (hd : delSnap i m = some m') :
    (m'.snaps = [] ∧ m'.cur = P.none) ∨
    (∃ r ∈ m'.snaps, m'.cur = P.id r.id ∧ ∀ s ∈ m'.snaps, s.born ≤ r.born) :=
  delSnap_current h hc hd

/-! ### non-vacuity -/
example : WF (run [.add 10 1 none, .add 20 2 none, .setRetention (some 1), .add 15 3 (some 12), .del 3]) :=
  wf_history _ (by decide +kernel)

end DSV.Meta

/-! ### several deletes / an expiry queued in one transaction -/
namespace DSV.Props.C15tx
open DSV.TxOps

/-- **queued_deletes_exact** — the deleted paths are those of the queued deletes, in queue order, and nothing that was not named -/
theorem queued_deletes_exact (ops : List Op) :
    (partition ops).deletes = ops.flatMap fun o => match o with | .deleteFiles ps => ps | _ => [] :=
  (foldl_stepPart ops ⟨[], [], none⟩).2

/-- **all_queued_deletes_applied** — every path of EVERY delete queued in a transaction is deleted -/
theorem all_queued_deletes_applied (ops : List Op) (ps : List Nat) (h : Op.deleteFiles ps ∈ ops) :
    ∀ x ∈ ps, x ∈ (partition ops).deletes := by
  intro x hx
  rw [queued_deletes_exact]
  exact List.mem_flatMap.2 ⟨_, h, hx⟩

/-- a transaction is committed in ONE shape (one pointer move): file operations carry the expiry along; an expiry alone is a
metadata-only commit -/
theorem one_commit_shape (ops : List Op) : shape (partition ops) = .fileOps ∨ shape (partition ops) = .metadataOnly := by
  unfold shape; split <;> simp

/-- what the property excludes: honouring only the last queued delete -/
theorem last_delete_only_keeps_files :
    ([Op.deleteFiles [1], .appendFiles [7], .deleteFiles [2]].foldl stepPartLastDeleteOnly ⟨[], [], none⟩).deletes = [2] ∧
    (partition [Op.deleteFiles [1], .appendFiles [7], .deleteFiles [2]]).deletes = [1, 2] := by decide +kernel

end DSV.Props.C15tx

/-! ## Tie to the current source -/
namespace DSV.Src.C15
open DSV.Skel DSV.Generated.Skel

/-- **source_delete_snapshot_order** — the CURRENT `SnapshotManager.delete_snapshot`: one read of the current metadata,
parents repointed to surviving ancestors, the current pointer moved to the most recent survivor, ONE metadata commit. -/
theorem source_delete_snapshot_order :
    project [("metadata_manager.refresh", "read"), ("repoint_parents_to_surviving_ancestors", "repoint"),
             ("_most_recent_snapshot_id", "pickCurrent"), ("metadata_manager.commit", "commit")] smDeleteSnapshot
      = ["read", "repoint", "pickCurrent", "commit"] := by decide +kernel

end DSV.Src.C15
