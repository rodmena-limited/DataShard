import DSV.Proofs.SkelGc
import DSV.Proofs.GcRun
/-!
C07 — garbage collection fails closed.
Model: `DSV/Model/GcRun.lean` — `collect` as a function of what every storage call of a run returns
(any number of snapshots / manifests / markers / listed files; any combination of failures).
-/
namespace DSV.GcRun

/-- **abort_deletes_nothing** — whatever the storage calls return, a collection that raises has deleted nothing. -/
theorem abort_deletes_nothing (i : Input) (d : List FileKey) (h : collect fixed i = .raised d) : d = [] := by
  rcases collect_fixed_cases h with e | ⟨ms, dl, ml, -, -, -, -, -, -, -, e⟩
  · exact Out.raised.inj e
  · cases e

/-- **untrusted_never_deletes** — if anything needed to decide reachability cannot be trusted (the metadata read fails, the
hint names a missing file, a manifest list or manifest cannot be read, the marker listing fails, a prefix listing fails
or returns a path outside the table) the collection raises, having deleted nothing. -/
theorem untrusted_never_deletes (i : Input)
    (h : i.metaOk = false ∨ i.hintDangling = true ∨ (∃ r ∈ i.reachReads, r = false) ∨ i.markers = none ∨
         i.dataListing = none ∨ i.manListing = none ∨
         (∃ l, (i.dataListing = some l ∨ i.manListing = some l) ∧ ∃ f ∈ l, f.escapes = true)) :
    collect fixed i = .raised [] := by
  rcases collect_fixed_cases (i := i) rfl with hc | ⟨ms, dl, ml, hm, hh, hr, hmk, hd, hml, he, -⟩
  · exact hc
  -- every check passed: rewritten with their results, each alternative of `h` is refuted
  exfalso
  rw [List.any_eq_false] at hr
  rw [Bool.or_eq_false_iff, List.any_eq_false, List.any_eq_false] at he
  rw [hm, hh, hmk, hd, hml] at h
  rcases h with h | h | ⟨r, hr', rfl⟩ | h | h | h | ⟨l, hl | hl, f, hf, hesc⟩
  · cases h
  · cases h
  · exact hr false hr' rfl
  · cases h
  · cases h
  · cases h
  · cases hl; exact he.1 f hf hesc
  · cases hl; exact he.2 f hf hesc

/-- **fault_never_deletes_live / marker_fault_keeps_protection** — a collection that completes has deleted no reachable file
and no file protected by a marker that is fresh, could not be stat'ed, could not be removed, or whose payload could not
be read (then the file of the marker's name in either directory stays protected). -/
theorem fault_never_deletes_live (i : Input) (d : List FileKey) (h : collect fixed i = .returned d) :
    ∀ f ∈ d, f ∉ i.reachable ∧ ¬ TrulyProtected i f := by
  rcases collect_fixed_cases h with e | ⟨ms, dl, ml, -, -, -, hmk, -, -, -, e⟩
  · cases e
  cases e
  intro f hf
  have hk : f ∉ i.reachable ++ protectedSet fixed ms := by
    rcases List.mem_append.1 hf with hf | hf
    · exact (mem_sweep.1 hf).1
    · exact (mem_sweep.1 hf).1
  refine ⟨fun hr => hk (List.mem_append_left _ hr), ?_⟩
  rintro ⟨ms', hms', m, hm, hs, hft⟩
  rw [hmk] at hms'; cases hms'
  exact hk (List.mem_append_right _ (mem_protectedSet.2 ⟨m, hm, hs, hft⟩))

/-- **collects_orphans** — liveness: a listed file that is neither reachable nor protected, older than the grace period,
stat-able and deletable is in fact deleted by a run that completes. -/
theorem collects_orphans (i : Input) (d : List FileKey) (h : collect fixed i = .returned d) (ms : List Marker)
    (hm : i.markers = some ms) (l : List Listed) (hl : i.dataListing = some l ∨ i.manListing = some l) (f : Listed) (hf : f ∈ l)
    (hk : f.key ∉ i.reachable ++ protectedSet fixed ms) (h1 : f.statOk = true) (h2 : f.old = true) (h3 : f.delOk = true) :
    f.key ∈ d := by
  rcases collect_fixed_cases h with e | ⟨ms', dl, ml, -, -, -, hmk, hd, hml, -, e⟩
  · cases e
  cases e
  rw [hm] at hmk; cases hmk
  have hs : f.key ∈ sweep (i.reachable ++ protectedSet fixed ms) l := mem_sweep.2 ⟨hk, f, hf, rfl, h1, h2, h3⟩
  rcases hl with hl | hl
  · rw [hd] at hl; cases hl
    exact List.mem_append_left _ hs
  · rw [hml] at hl; cases hl
    exact List.mem_append_right _ hs

/-! ### the four repaired behaviours, as theorems about the code as found (regression witnesses) -/

def liveTx : Input :=
  { metaOk := true, hintDangling := false, reachReads := [true], reachable := [(true, 1)],
    markers := none,                                                  -- listing metadata/inflight raised
    dataListing := some [⟨(true, 1), false, true, true, true⟩, ⟨(true, 7), false, true, true, true⟩],   -- 7 = in-flight data file, old
    manListing := some [] }

/-- a failing marker listing was read as "no markers": the old in-flight file 7 is deleted -/
theorem swallowed_marker_listing_deletes_inflight :
    collect { fixed with swallowMarkerListing := true } liveTx = .returned [(true, 7)] ∧
    collect fixed liveTx = .raised [] := by decide +kernel

def unreadableManifestMarker : Input :=
  { metaOk := true, hintDangling := false, reachReads := [true], reachable := [],
    markers := some [⟨5, (false, 5), some true, false, true⟩],       -- marker of in-flight MANIFEST 5, payload unreadable
    dataListing := some [], manListing := some [⟨(false, 5), false, true, true, true⟩] }

/-- an unreadable marker payload fell back to data/<name>: the in-flight manifest 5 is deleted -/
theorem data_only_fallback_deletes_inflight_manifest :
    collect { fixed with fallbackDataOnly := true } unreadableManifestMarker = .returned [(false, 5)] ∧
    collect fixed unreadableManifestMarker = .returned [] := by decide +kernel

def secondListingFails : Input :=
  { metaOk := true, hintDangling := false, reachReads := [true], reachable := [], markers := some [],
    dataListing := some [⟨(true, 9), false, true, true, true⟩], manListing := none }

/-- the data prefix was swept before the manifests prefix was listed: the run raises AFTER deleting orphan 9 -/
theorem sweep_before_listing_raises_after_delete :
    collect { fixed with sweepBeforeListing := true } secondListingFails = .raised [(true, 9)] ∧
    collect fixed secondListingFails = .raised [] := by decide +kernel

def danglingHint : Input :=
  { metaOk := true, hintDangling := true, reachReads := [true], reachable := [], markers := some [],
    dataListing := some [], manListing := some [⟨(false, 3), false, true, true, true⟩] }   -- 3 = manifest list of the LOST version

/-- a dangling hint silently served an older version: the lost version's manifest list is deleted instead of aborting -/
theorem dangling_hint_collected_against_older_version :
    collect { fixed with trustDanglingHint := true } danglingHint = .returned [(false, 3)] ∧
    collect fixed danglingHint = .raised [] := by decide +kernel

end DSV.GcRun

/-! ## Tie to the current source: every read, listing and abort precedes the first delete -/
namespace DSV.Src.C07
open DSV.Skel DSV.Generated.Skel

/-- **source_collect_order** — the exact step order of `collect`. -/
theorem source_collect_order :
    project gcVoc gcCollect = ["markers", "meta", "hintCheck", "abort", "readList", "abort", "readManifest", "abort",
                               "list", "list", "sweep", "sweep"] := gcCollect_steps

/-- **source_sweep_last** — in the CURRENT source of `GarbageCollector.collect` nothing but sweeping follows the first sweep:
markers, metadata, the dangling-pointer check, every manifest-list and manifest read, BOTH listings and every abort come
first, and `collect` itself deletes nothing outside `_gc_prefix`. -/
theorem source_sweep_last : sweepLast gcCollect = true := by
  unfold sweepLast
  rw [source_collect_order]
  decide +kernel

/-- **source_sweep_cannot_abort** — `_gc_prefix` raises nothing of its own: it (re)lists only as a fallback, and deletes. -/
theorem source_sweep_cannot_abort :
    project gcVoc gcPrefix = ["list", "delete"] ∧ gcPrefix.contains "raise" = false := by decide +kernel

/-- **source_marker_listing_failure_aborts** — in the CURRENT `_load_inflight_protection` a failing listing of the marker
directory aborts the collection (the defect repaired by 5868c83 read it as "no markers"); an unreadable marker age and a failed
removal of an abandoned marker do not abort, and a marker whose removal failed keeps protecting. -/
theorem source_marker_listing_failure_aborts :
    project [("storage.list_files", "list"), ("except:Exception", "onError"), ("raise:GarbageCollectionAborted", "abort"),
             ("storage.get_modified_time", "age"), ("_marker_targets", "targets"), ("protected.update", "protect"),
             ("storage.delete_file", "dropMarker")] gcLoadInflight
      = ["list", "onError", "abort", "age", "onError", "targets", "protect", "dropMarker", "onError", "protect"] := by decide +kernel

end DSV.Src.C07
