import DSV.Proofs.History
/-!
# C09 — retained snapshots are immutable and time travel is stable

Theorems over `DSV.History` (the metadata algebra of C15 composed with a write-once file plane), for EVERY history of
{commit (append / delete / both, optional expiry), expire, delete snapshot, failed commit (cleaned or not), collection with any
candidate set}, of any length:
* `snapshot_content_stable` — every retained snapshot reads back exactly what was recorded at its commit;
* `committed_frozen`        — that record is never changed by anything later;
* `time_travel_stable`      — a snapshot retained at two points of a history reads the same at both;
* `commit_spec`             — a commit records the base snapshot's files minus exactly the deleted ones plus exactly the new ones;
* `gc_keeps_retained`       — a collection with ANY candidate set leaves every retained snapshot's content unchanged;
* `lookup_by_id_content`, `lookup_by_timestamp_hist`, `delete_current_repoints_hist` — the C15 lookup theorems on every reachable state;
* `inplace_rewrite_breaks`, `curonly_gc_breaks` — what the property excludes, witnessed on the two wrong variants.
-/
namespace DSV.Props.C09
open DSV.History DSV.Meta

theorem snapshot_content_stable (ops : List DSV.History.Op) (h : DSV.History.OpsOk init ops) :
    ∀ i ∈ (DSV.History.run ops).md.ids, ∃ c, (DSV.History.run ops).committed.lookup i = some c ∧ content (DSV.History.run ops) i = some c :=
  (inv_run ops h).good

theorem committed_frozen (ops1 ops2 : List DSV.History.Op) (h : DSV.History.OpsOk init (ops1 ++ ops2)) (i : Nat) (c : List Nat)
    (hc : (DSV.History.run ops1).committed.lookup i = some c) : (DSV.History.run (ops1 ++ ops2)).committed.lookup i = some c := by
  have _ := h  -- not needed
  rw [run_append]; exact (foldl_committed ops2 _).lookup_eq_some hc

theorem time_travel_stable (ops1 ops2 : List DSV.History.Op) (h : DSV.History.OpsOk init (ops1 ++ ops2)) (i : Nat)
    (h1 : i ∈ (DSV.History.run ops1).md.ids) (h2 : i ∈ (DSV.History.run (ops1 ++ ops2)).md.ids) :
    content (DSV.History.run (ops1 ++ ops2)) i = content (DSV.History.run ops1) i ∧ (content (DSV.History.run ops1) i).isSome = true := by
  obtain ⟨hok1, hok2⟩ := (opsOk_append ops1 ops2 init).1 h
  rw [run_append] at h2 ⊢
  obtain ⟨c, -, e1, e2⟩ := content_frozen ops2 _ (inv_run ops1 hok1) hok2 h1 h2
  rw [e1, e2]; exact ⟨rfl, rfl⟩

theorem commit_spec (ops : List DSV.History.Op) (now id : Nat) (cutoff : Option Nat) (nApp : Nat) (deleted : List Nat)
    (h : DSV.History.OpsOk init (ops ++ [.commit now id cutoff nApp deleted])) (c : List Nat)
    (hc : (DSV.History.run (ops ++ [.commit now id cutoff nApp deleted])).committed.lookup id = some c) :
    c = ((match (DSV.History.run ops).md.cur with | P.id cur => (content (DSV.History.run ops) cur).getD [] | _ => []).filter fun d => !deleted.contains d)
        ++ (List.range nApp).map (· + (DSV.History.run ops).nextD) := by
  have hok := (opsOk_append ops [.commit now id cutoff nApp deleted] init).1 h
  have hI := inv_run ops hok.1
  have hfresh : id ∉ (DSV.History.run ops).committed.map (·.1) := hI.histC ▸ hok.2.1
  rw [run_append, List.foldl_cons, List.foldl_nil] at hc
  rcases commit_record _ hI now id cutoff nApp deleted with e | e <;> rw [e] at hc
  · rw [lookup_notin_none hfresh] at hc; cases hc
  · rw [lookup_append_notin hfresh, List.lookup_cons_self] at hc
    exact (Option.some.inj hc).symm

theorem gc_keeps_retained (ops : List DSV.History.Op) (h : DSV.History.OpsOk init ops) (cands : Files) :
    ∀ i ∈ (DSV.History.run ops).md.ids, content (collect (DSV.History.run ops) cands) i = content (DSV.History.run ops) i :=
  have _ := h  -- not needed
  collect_keeps_content _ cands

theorem md_wf (ops : List DSV.History.Op) (h : DSV.History.OpsOk init ops) : WF (DSV.History.run ops).md := (inv_run ops h).wf

/-- lookup by id returns the snapshot unchanged, and reading it gives what its commit recorded -/
theorem lookup_by_id_content (ops : List DSV.History.Op) (h : DSV.History.OpsOk init ops) (s : Snap) (hs : s ∈ (DSV.History.run ops).md.snaps) :
    byId s.id (DSV.History.run ops).md = some s ∧
    ∃ c, (DSV.History.run ops).committed.lookup s.id = some c ∧ content (DSV.History.run ops) s.id = some c :=
  ⟨find?_id (md_wf ops h).idsNodup hs, snapshot_content_stable ops h s.id (List.mem_map.mpr ⟨s, hs, rfl⟩)⟩

/-- lookup by timestamp on every reachable state of a history with a non-decreasing clock (equal timestamps allowed):
the most recently committed retained snapshot not newer than `t` -/
theorem lookup_by_timestamp_hist (ops : List DSV.History.Op) (h : DSV.History.OpsOk init ops) (hm : DSV.History.OpsMono init ops) (t : Nat) :
    (∀ r, byTime t (DSV.History.run ops).md = some r →
        r ∈ (DSV.History.run ops).md.snaps ∧ r.ts ≤ t ∧ ∀ s ∈ (DSV.History.run ops).md.snaps, s.ts ≤ t → s.born ≤ r.born) ∧
    (byTime t (DSV.History.run ops).md = none → ∀ s ∈ (DSV.History.run ops).md.snaps, ¬ s.ts ≤ t) :=
  byTime_spec _ (chrono_run ops h hm) t

/-- deleting the current snapshot repoints the table to its most recently committed survivor -/
theorem delete_current_repoints_hist (ops : List DSV.History.Op) (h : DSV.History.OpsOk init ops) (i : Nat)
    (hc : (DSV.History.run ops).md.cur = P.id i) (m' : Meta) (hd : delSnap i (DSV.History.run ops).md = some m') :
    (m'.snaps = [] ∧ m'.cur = P.none) ∨ (∃ r ∈ m'.snaps, m'.cur = P.id r.id ∧ ∀ s ∈ m'.snaps, s.born ≤ r.born) :=
  delSnap_current (md_wf ops h) hc hd

/-! ### how a snapshot can leave the table -/

/-- **commit_keeps_snapshots** — with no retention count configured, a commit without an expiry (append, delete, both) keeps every
retained snapshot retained, whatever it writes -/
theorem commit_keeps_snapshots (s : St) (now id nApp : Nat) (deleted : List Nat) (h : s.md.retention = Option.none) :
    ∀ x ∈ s.md.ids, x ∈ (DSV.History.step s (.commit now id Option.none nApp deleted)).md.ids := by
  intro x hx
  rw [DSV.History.step]
  cases writeFiles s nApp deleted with
  | none => exact hx
  | some w =>
    rcases addSnap_cases now id none s.md with e | e <;> simp only [e]
    · exact hx
    · rw [retain_unset (addRaw now id s.md) h, addRaw_ids]
      exact List.mem_append_left _ hx

/-- **failed_and_gc_keep_metadata** — a failed commit and a collection do not touch the metadata at all -/
theorem failed_and_gc_keep_metadata (s : St) (nApp : Nat) (deleted : List Nat) (cleaned : Bool) (cands : Files) :
    (DSV.History.step s (.failed nApp deleted cleaned)).md = s.md ∧ (DSV.History.step s (.gc cands)).md = s.md := by
  refine ⟨?_, collect_md s cands⟩
  rw [DSV.History.step]
  cases writeFiles s nApp deleted with
  | none => rfl
  | some w => cases cleaned <;> rfl

/-- **expiry_exact** — an expiry keeps every snapshot that is not older than the cutoff and the current one, and everything it
keeps is such a snapshot: exactly the older non-current ones leave -/
theorem expiry_exact (c : Nat) (m : Meta) :
    (∀ s ∈ m.snaps, (s.ts ≥ c ∨ P.id s.id = m.cur) → s.id ∈ (expire c m).ids) ∧
    (∀ x ∈ (expire c m).ids, ∃ s ∈ m.snaps, s.id = x ∧ (s.ts ≥ c ∨ P.id s.id = m.cur)) :=
  ⟨fun s hs h => mem_expire_ids.2 ⟨s, hs, rfl, h⟩, fun _ hx => mem_expire_ids.1 hx⟩

/-- **metadata_log_bound_is_not_a_snapshot_bound** — `write.metadata.previous-versions-max` bounds the metadata LOG only -/
theorem metadata_log_bound_is_not_a_snapshot_bound (r : Option Int) (m : Meta) :
    (setPrevMax r m).snaps = m.snaps ∧ (setPrevMax r m).cur = m.cur ∧ (setPrevMax r m).retention = m.retention := ⟨rfl, rfl, rfl⟩

/-! ### what the property excludes (the two mutations its rationale names) -/

def h3 : List DSV.History.Op := [.commit 10 1 none 2 [], .commit 20 2 none 1 []]

/-- in-place manifest mutation: a delete that overwrites a manifest changes what the OLDER snapshots read -/
theorem inplace_rewrite_breaks :
    content (DSV.History.run h3) 1 = some [0, 1] ∧ content (deleteInPlace (DSV.History.run h3) 30 3 [0]) 1 = some [1] := by
  decide +kernel

/-- over-eager collection: protecting only the current snapshot's files makes an older retained snapshot unreadable -/
theorem curonly_gc_breaks :
    let s := DSV.History.run (h3 ++ [.commit 30 3 none 0 [0]])
    1 ∈ s.md.ids ∧ content s 1 = some [0, 1] ∧ content (collectCurOnly s s.files) 1 = none ∧ content (collect s s.files) 1 = some [0, 1] := by
  decide +kernel

/-! ### non-vacuity -/
def hx : List DSV.History.Op :=
  [.commit 10 1 none 2 [], .commit 20 2 none 1 [], .commit 30 3 none 0 [0], .failed 1 [] false, .expire 15, .delSnap 3]

example : DSV.History.OpsOk init hx := by decide +kernel
example : (DSV.History.run hx).md.ids = [2] ∧ content (DSV.History.run hx) 2 = some [0, 1, 2] ∧ (DSV.History.run hx).md.cur = P.id 2 := by
  decide +kernel

/-! ### the monotone-clock hypothesis of `lookup_by_timestamp_hist` is needed (open finding) -/

/-- **lookup_by_timestamp_stepback_refuted** — the model (and the library: replayed by the check, listed in known_findings.json)
when the wall clock steps BACK between two commits: snapshot 1 is committed at t = 105, snapshot 2 — the current one — at t = 100.
Both are "not newer than" 200 and 2 is the most recently committed, yet the lookup returns 1: the lookup orders by timestamp, and
nothing forces a snapshot's timestamp above its predecessors' (unlike `last_updated_ms`, repaired for C01). -/
theorem lookup_by_timestamp_stepback_refuted :
    DSV.History.OpsOk init [.commit 105 1 none 1 [], .commit 100 2 none 1 []] ∧
    (DSV.History.run [.commit 105 1 none 1 [], .commit 100 2 none 1 []]).md.cur = P.id 2 ∧
    ((DSV.History.run [.commit 105 1 none 1 [], .commit 100 2 none 1 []]).md.snaps.map (fun x => (x.id, x.ts, x.born))) = [(1, 105, 0), (2, 100, 1)] ∧
    (byTime 200 (DSV.History.run [.commit 105 1 none 1 [], .commit 100 2 none 1 []]).md).map (·.id) = some 1 := by
  refine ⟨by decide +kernel, ?_⟩
  generalize hs : DSV.History.run [.commit 105 1 none 1 [], .commit 100 2 none 1 []] = st
  obtain ⟨h1, h2⟩ : st.md.cur = P.id 2 ∧ st.md.snaps = [⟨1, 105, 1, P.root, 0, P.root⟩, ⟨2, 100, 2, P.id 1, 1, P.id 1⟩] := by
    subst hs; decide +kernel
  refine ⟨h1, by rw [h2]; rfl, ?_⟩
  -- `mergeSort` is defined by well-founded recursion: unfolded by hand
  unfold byTime sortByTs
  rw [h2]
  simp [List.mergeSort]

end DSV.Props.C09
