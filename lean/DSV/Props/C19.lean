import DSV.Model.Skeleton
import DSV.Generated.Skeleton
import DSV.Proofs.Lock
/-!
C19 — locks exclude, time out, and never report a lock that is not held.
Models: `DSV/Model/Lock.lean`.  Invariants and the case analysis of the steps: `DSV/Proofs/Lock.lean`.
-/
namespace DSV.Lock

/-! ### local lock (flock on a persistent inode) -/

/-- **flock_mutex** — for any number of FileLock instances (threads, processes), any interleaving of attempts, releases,
deaths and clock ticks: at most one instance believes it holds the lock, and whoever believes so is backed by a kernel
flock on the inode the lock path names. -/
theorem flock_mutex (s : FSys) (h : FReach s) :
    (∀ a b, (s.inst a).locked = true → (s.inst b).locked = true → a = b) ∧ (∀ a, KernelBacked s a) := by
  have inv := finv_reach h
  refine ⟨fun a b ha hb => ?_, fun a hl => ?_⟩
  · obtain ⟨oa, _, hma, hoa⟩ := inv.backed a ha
    obtain ⟨ob, _, hmb, hob⟩ := inv.backed b hb
    rw [← hoa, ← hob, inv.uniq oa hma ob hmb]
  · obtain ⟨oa, hf, hma, hoa⟩ := inv.backed a hl
    exact ⟨oa, hf, hma, hoa, inv.inode oa hma⟩

/-- **death_releases** — a holder's death releases the lock (the kernel closes its descriptors). -/
theorem death_releases (s s' : FSys) (h : FReach s) (a : Nat) (hs : fstep s a .die = some s') :
    (s'.inst a).locked = false ∧ ∀ ofd ∈ s'.k.holders, ofd.owner ≠ a := by
  have _ := h  -- not needed
  cases hs
  exact ⟨by simp, fun ofd hm => by simpa using (List.mem_filter.mp hm).2⟩

/-- **timeout_bound** — an attempt succeeds only through a successful flock; with the lock busy it raises TimeoutError
exactly once the deadline has passed (no further waiting), and keeps waiting before that. -/
theorem timeout_bound (s s' : FSys) (a : Nat) (dl : Nat) (hd : (s.inst a).deadline = some dl)
    (hs : fstep s a .attempt = some s') :
    let busy := s.k.holders.any (fun h => h.inode == s.k.pathInode)
    ((s'.inst a).locked = true ∧ (s.inst a).locked = false → busy = false) ∧
    (busy = true ∧ s.now ≥ dl → (s'.inst a).timedOut = true ∧ (s'.inst a).deadline = none ∧ (s'.inst a).locked = (s.inst a).locked) ∧
    (busy = true ∧ s.now < dl → s'.inst a = s.inst a) ∧
    (busy = false → (s'.inst a).locked = true) := by
  obtain ⟨dl', hd', hout⟩ := fstep_attempt hs
  rw [hd] at hd'; cases hd'
  rcases hout with ⟨hb, ⟨hn, rfl⟩ | ⟨hn, rfl⟩⟩ | ⟨hb, rfl⟩
  · rw [setInst_inst, if_pos rfl]
    exact ⟨fun h => (nomatch h.1.symm.trans h.2), fun _ => ⟨rfl, rfl, rfl⟩, fun h => absurd hn (Nat.not_le.mpr h.2),
      fun h => (nomatch hb.symm.trans h)⟩
  · exact ⟨fun h => (nomatch h.1.symm.trans h.2), fun h => absurd h.2 (Nat.not_le.mpr hn), fun _ => rfl,
      fun h => (nomatch hb.symm.trans h)⟩
  · rw [setInst_inst, if_pos rfl]
    exact ⟨fun _ => Bool.eq_false_iff.mpr hb, fun h => absurd h.1 hb, fun h => absurd h.1 hb, fun _ => rfl⟩

/-- **no_success_while_held** — a blocked acquirer never reports success while another holder is live. -/
theorem no_success_while_held (s s' : FSys) (h : FReach s) (a b : Nat) (hab : a ≠ b)
    (hs : fstep s a .attempt = some s') (hb : (s.inst b).locked = true) : (s'.inst a).locked = (s.inst a).locked := by
  have _ := hab  -- not needed
  have inv := finv_reach h
  obtain ⟨ofd, _, hm, _⟩ := inv.backed b hb
  obtain ⟨_, _, ⟨_, ⟨_, rfl⟩ | ⟨_, rfl⟩⟩ | ⟨hfree, _⟩⟩ := fstep_attempt hs
  · simp
  · rfl
  · rw [holders_nil_of_not_busy inv.inode hfree] at hm; cases hm

/-- **unlink_breaks_mutex** — why the lock file must never be unlinked: if a release also unlinked it, the path would name
a fresh inode and a second instance would lock THAT one while the first still holds the old one. -/
theorem unlink_breaks_mutex :
    (((frun finit [(1, .begin 5), (1, .attempt)]).map unlinkStep).bind fun s => frun s [(2, .begin 5), (2, .attempt)]).map
      (fun s' => ((s'.inst 1).locked, (s'.inst 2).locked)) = some (true, true) := by decide +kernel

/-- Non-vacuity: a reachable state in which one instance holds the lock and a second one has timed out. -/
example : (frun finit [(1, .begin 5), (1, .attempt), (2, .begin 5), (2, .attempt), (0, .tick 6), (2, .attempt)]).map
    (fun s => ((s.inst 1).locked, (s.inst 2).locked, (s.inst 2).timedOut)) = some (true, false, true) := by decide +kernel

/-! ### S3 lock (conditional writes) -/

/-- **takeover_only_after_lease** — every successful acquisition (create or takeover) happens when there is no lock
object, or when the object's lease has lapsed: a lock is taken over only after its lease lapsed. -/
theorem takeover_only_after_lease (lease : Nat) (cd : Bool) (s s' : SSys) (h : SReach lease cd s) (a : Nat) (act : SAct)
    (hs : sstep s a act = some s') (hacq : Acquired s s' a) : s.obj = none ∨ Lapsed s := by
  obtain ⟨t, ht⟩ := hacq
  have grew : s'.log ≠ s.log := fun he => List.cons_ne_self _ _ (ht.symm.trans he)
  cases sstep_kind hs with
  | acquire pre =>
    rcases pre with hnone | ⟨o, m, ho, hseen⟩
    · exact .inl hnone
    · exact .inr ⟨o, ho, ((sinv_reach h).seenLapsed a _ m hseen).2 o ho rfl⟩
  | _ => exact absurd rfl grew

/-- **superseded_observes_loss** — a holder whose lock object now names someone else is told so: `is_held()` answers
False (and clears its flag), and its next renewal fails without touching the object. -/
theorem superseded_observes_loss (lease : Nat) (cd : Bool) (s : SSys) (h : SReach lease cd s) (a : Nat)
    (hl : (s.cl a).isLocked = true) (ho : ∃ o, s.obj = some o ∧ o.owner ≠ a) :
    heldAnswer s a = false ∧
    (∀ s', sstep s a .isHeld = some s' → (s'.cl a).isLocked = false) ∧
    (∀ s', sstep s a .renew = some s' → (s'.cl a).isLocked = false ∧ s'.obj = s.obj) := by
  obtain ⟨o, hobj, hne⟩ := ho
  refine ⟨by simp [heldAnswer, hl, hobj, hne], fun s' hs => ?_, fun s' hs => ?_⟩
  · -- the flag is set and the GET finds another owner, so `isHeld` clears the flag: `hs` becomes
    -- `setCl s a { s.cl a with isLocked := false } = s'`
    simp [sstep, hl, hobj, hne] at hs
    rw [← hs, setCl_cl, if_pos rfl]
  · simp only [sstep, hl, hobj] at hs
    split at hs
    · next e _ hetag =>
      split at hs
      · next hoe => exact absurd (((sinv_reach h).own a e hetag).2 o hobj hoe) hne
      · cases hs; simp
    · cases hs

/-- **held_answer_sound** — `is_held()` never reports a lock that is not held: a True answer means the object carries our id. -/
theorem held_answer_sound (lease : Nat) (cd : Bool) (s : SSys) (h : SReach lease cd s) (a : Nat)
    (hh : heldAnswer s a = true) : ∃ o, s.obj = some o ∧ o.owner = a := by
  have _ := h  -- not needed
  unfold heldAnswer at hh
  cases hobj : s.obj with
  | none => simp [hobj] at hh
  | some o => simp [hobj] at hh; exact ⟨o, rfl, hh.2⟩

/-- **owned_object_persists_partial** — holds when release deletes conditionally (If-Match on the releaser's own ETag). -/
theorem owned_object_persists_partial : OwnedObjectPersists true := by
  intro lease s s' h a b hab act hs ho
  rcases owner_loses_only_by_lapse_or_unconditional_delete h hab hs ho with h | h | ⟨h, _⟩
  · exact .inl h
  · exact .inr h
  · cases h

/-- **owned_object_persists_refuted** (the code as found: get-then-unconditional-delete) — a release paused across a
takeover deletes the NEW owner's lock while its lease is fresh; the next creator then succeeds while that holder is live. -/
theorem owned_object_persists_refuted : ¬ OwnedObjectPersists false := by
  intro hP
  -- the state `s` before 1's late DELETE and the state `s'` after it
  have facts : ((srun (sinit 60 false) releaseSpansTakeover.dropLast).bind fun s => (sstep s 1 .relDelete).map fun s' =>
      (s.obj, (s.cl 2).etag, s.now, s.lease, s'.obj)) = some (some ⟨2, 1, 61⟩, some 1, 61, 60, none) := by decide +kernel
  simp only [Option.bind_eq_some_iff, Option.map_eq_some_iff, Prod.mk.injEq] at facts
  obtain ⟨s, hr, s', hs, hobj, hetag, hnow, hlease, hobj'⟩ := facts
  rcases hP 60 s s' (sreach_srun 60 false _ _ _ .init hr) 1 2 (by decide) .relDelete hs ⟨_, hobj, rfl, hetag⟩ with
    ⟨o, ho, _⟩ | ⟨o, ho, hlap⟩
  · rw [hobj'] at ho; cases ho
  · rw [hobj] at ho; cases ho
    rw [hnow, hlease] at hlap
    exact absurd hlap (by decide)

/-- what the refutation trace looks like: after 1's late DELETE the object is gone although 2 is locked, and 3 creates -/
example : (srun (sinit 60 false) (releaseSpansTakeover ++ [(3, .create)])).map
    (fun s => ((s.cl 2).isLocked, (s.cl 3).isLocked, s.obj.map (·.owner))) = some (true, true, some 3) := by decide +kernel

/-! ### S3 lock: time to `TimeoutError` -/

theorem pollLoop_bound (timeout pollMax : Nat) : ∀ (sleeps : List Nat) (el0 : Nat), (∀ d ∈ sleeps, d ≤ pollMax) →
    el0 ≤ timeout + pollMax → ∀ el, pollLoop timeout el0 sleeps = some el → timeout ≤ el ∧ el ≤ timeout + pollMax := by
  intro sleeps el0
  fun_induction pollLoop timeout el0 sleeps with
  | case1 el0 hge => intro _ h0 el h; cases h; exact ⟨hge, h0⟩
  | case2 => intro _ _ _ h; cases h
  | case3 el0 d rest hge => intro _ h0 el h; cases h; exact ⟨hge, h0⟩
  | case4 el0 d rest hlt ih =>
    intro hs _
    exact ih (fun x hx => hs x (List.mem_cons_of_mem _ hx)) (by have := hs d List.mem_cons_self; omega)

/-- **s3_timeout_bound** — a contender blocked for its whole timeout gets `TimeoutError` no earlier than the timeout and no
later than the timeout plus ONE poll interval, whatever the jitter draws (any number of polls) -/
theorem s3_timeout_bound (timeout pollMax : Nat) (sleeps : List Nat) (h : ∀ d ∈ sleeps, d ≤ pollMax) (el : Nat)
    (he : pollLoop timeout 0 sleeps = some el) : timeout ≤ el ∧ el ≤ timeout + pollMax :=
  pollLoop_bound timeout pollMax sleeps 0 h (Nat.zero_le _) el he

/-- what the bound excludes: a back-off that grows without being clamped to the remaining time overshoots by far more than a poll -/
theorem unclamped_backoff_overshoots : pollLoop 30000 0 [1000, 2000, 4000, 8000, 16000, 20000] = some 31000 ∧
    pollLoop 30000 0 [500, 1000, 2000, 4000, 8000, 16000, 20000] = some 31500 ∧
    pollLoop 5000 0 [300, 600, 1200, 2400, 4800] = some 9300 := by decide +kernel

example : pollLoop 5000 0 [900, 900, 900, 900, 900, 900, 900] = some 5400 := by decide +kernel

/-! ### a dead holder's lock does not wedge the table (C03 / C19: takeover is part of the protocol) -/

/-- one pass of `_try_acquire`: conditional create, then the two-request takeover attempt -/
def tryAcquire (a : Nat) : List (Nat × SAct) := [(a, .create), (a, .head), (a, .takeover)]

/-- **dead_holder_taken_over** — in ANY state in which the lock object is older than the lease (its holder died: nobody renewed,
nobody released) a contender's single acquisition pass, undisturbed, ends with the contender owning the lock -/
theorem dead_holder_taken_over (s : SSys) (a : Nat) (o : Obj) (ho : s.obj = some o) (hl : (s.cl a).isLocked = false)
    (hage : s.now - o.mtime > s.lease) :
    ∃ s', srun s (tryAcquire a) = some s' ∧ (s'.cl a).isLocked = true ∧ (∃ o', s'.obj = some o' ∧ o'.owner = a ∧ o'.mtime = s.now) := by
  -- `create` falls through because the object exists, `head` sees the lapse, and the takeover PUT matches the ETag `head` saw
  simp only [tryAcquire, srun, sstep, hl, Bool.false_eq_true, ↓reduceIte, ho, hage, setCl_cl, setCl_obj, setCl_now,
    Option.some.injEq, exists_eq_left', and_self]

/-- **live_holder_not_taken_over** — while the object is within its lease the same pass leaves the object alone and the contender unlocked -/
theorem live_holder_not_taken_over (s : SSys) (a : Nat) (o : Obj) (ho : s.obj = some o) (hl : (s.cl a).isLocked = false)
    (hage : ¬ s.now - o.mtime > s.lease) :
    ∃ s', srun s [(a, .create), (a, .head)] = some s' ∧ (s'.cl a).isLocked = false ∧ s'.obj = some o ∧ (s'.cl a).seen = none ∧
      sstep s' a .takeover = none := by
  -- `create` falls through because the object exists; `head` finds the lease running and records nothing, so `takeover` is
  -- not enabled
  simp only [srun, sstep, hl, Bool.false_eq_true, ↓reduceIte, ho, hage, Option.some.injEq, exists_eq_left', setCl_cl,
    setCl_obj, and_self]

end DSV.Lock

/-! ## Tie to the current source: the requests of the S3 lock -/
namespace DSV.Src.C19
open DSV.Skel DSV.Generated.Skel

/-- **source_lock_requests** — in the CURRENT source: acquisition is a create-if-absent PUT; a takeover is HEAD then a PUT
conditional on the ETag seen; `is_held` is one GET; release is a GET followed by an UNCONDITIONAL delete. -/
theorem source_lock_requests :
    project s3Voc s3LockTryAcquire = ["createIfAbsent"] ∧
    project s3Voc s3LockTakeover = ["head", "replaceIfMatch"] ∧
    project s3Voc s3LockIsHeld = ["get"] ∧
    project s3Voc s3LockRelease = ["get", "delete"] := by decide +kernel

/-- **source_release_is_unconditional** — the model switch `conditionalDelete` READ OFF the current source is `false`: the open
finding `release-spans-takeover` (witness `owned_object_persists_refuted`) is a statement about the code as it is now. -/
theorem source_release_is_unconditional : conditionalDeleteOf s3LockRelease = false := by
  simp only [conditionalDeleteOf, source_lock_requests.2.2.2]; decide +kernel

/-- **owned_object_persists_source_refuted** — the refutation instantiated at the switch computed from the current source. -/
theorem owned_object_persists_source_refuted : ¬ DSV.Lock.OwnedObjectPersists (conditionalDeleteOf s3LockRelease) := by
  rw [source_release_is_unconditional]; exact DSV.Lock.owned_object_persists_refuted

end DSV.Src.C19
