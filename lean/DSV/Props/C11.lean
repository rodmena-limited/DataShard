import DSV.Proofs.TxOps
import DSV.Model.Append
/-!
C11 — accepted appends are exact; rejected ones leave no trace; scans keep working.
The append step has a closed form (`append_arg`, `append_resolved`) from which the per-append theorems are read off, and what every
accepted append preserves holds after any history (`run_preserves`). Coercion: the validator's guard is proved against the
specification `lossySpec` for every value; pyarrow's measured behaviour is compared with `lossySpec` on the grid, once.
-/
namespace DSV.Props.C11
open DSV.Append

theorem sig_injective : ∀ a b : Schema, sig a = sig b → a = b := fun _ _ =>
  (List.map_inj_right fun x y h => by cases x; cases y; simp_all).1

/-- an accepted schema argument IS the table's schema -/
theorem schema_arg_sound (t a : Schema) (h : acceptsArg t a = true) : a = t :=
  sig_injective a t (by simpa [acceptsArg] using h)

theorem schema_arg_complete (t : Schema) : acceptsArg t t = true := by simp [acceptsArg]

/-- what `append_data` returns once the schema argument and the batch are accepted, whatever the acceptance test -/
theorem appendWith_ok (acc : Schema → Schema → Bool) (t : Table) (a : Schema) (rs : List Record)
    (ha : acc t.schema a = true) (hr : rs.all (recordOk a) = true) :
    appendWith acc t (some a) rs = .ok { t with files := t.files ++
      [{ layout := layout a, boundKeys := boundKeys a, rows := rs.map (stored a) }] } := by
  simp [appendWith, ha, hr]

theorem append_arg (t : Table) (arg : Option Schema) (rs : List Record) :
    (∃ a, arg = some a ∧ a ≠ t.schema ∧ append t arg rs = .error .schemaMismatch) ∨ arg = none ∨ arg = some t.schema := by
  cases arg with
  | none => exact .inr (.inl rfl)
  | some a =>
    by_cases ha : a = t.schema
    · exact .inr (.inr (ha ▸ rfl))
    · have : acceptsArg t.schema a = false := Bool.eq_false_iff.2 fun h => ha (schema_arg_sound _ _ h)
      exact .inl ⟨a, rfl, ha, by simp [append, appendWith, this]⟩

/-- without a schema argument, or with the table's own schema, record validation alone decides, and an accepted batch
becomes one more file written with the table's schema -/
theorem append_resolved (t : Table) (arg : Option Schema) (rs : List Record) (harg : arg = none ∨ arg = some t.schema) :
    append t arg rs = if rs.all (recordOk t.schema) = true
      then .ok { t with files := t.files ++
        [{ layout := layout t.schema, boundKeys := boundKeys t.schema, rows := rs.map (stored t.schema) }] }
      else .error .badRecord := by
  have hs : arg.getD t.schema = t.schema := by rcases harg with rfl | rfl <;> rfl
  by_cases hr : rs.all (recordOk t.schema) = true <;> simp [append, appendWith, hs, schema_arg_complete, hr]

theorem append_ok (t : Table) (arg : Option Schema) (rs : List Record) (t' : Table) (h : append t arg rs = .ok t') :
    (arg = none ∨ arg = some t.schema) ∧ rs.all (recordOk t.schema) = true ∧
    t' = { t with files := t.files ++ [{ layout := layout t.schema, boundKeys := boundKeys t.schema, rows := rs.map (stored t.schema) }] } := by
  rcases append_arg t arg rs with ⟨_, _, _, he⟩ | harg
  · rw [he] at h; cases h
  · rw [append_resolved t arg rs harg] at h
    split at h
    next hr => cases h; exact ⟨harg, hr, rfl⟩
    next => cases h

/-- C11, exactness: an accepted append adds exactly the supplied records and nothing else -/
theorem append_exact (t : Table) (arg : Option Schema) (rs : List Record) (t' : Table)
    (h : append t arg rs = .ok t') : scanRows t' = scanRows t ++ rs.map (stored t.schema) := by
  obtain ⟨_, _, rfl⟩ := append_ok t arg rs t' h
  simp [scanRows]

/-- every record of an accepted batch passed validation against the table's schema -/
theorem append_validated (t : Table) (arg : Option Schema) (rs : List Record) (t' : Table)
    (h : append t arg rs = .ok t') : ∀ r ∈ rs, recordOk t.schema r = true := by
  simpa using (append_ok t arg rs t' h).2.1

/-- a rejected append yields no table at all (the step function has no partial state), and it is rejected for a reason:
the schema argument differs from the table's schema, or some record of the batch fails validation -/
theorem append_reject_frame (t : Table) (arg : Option Schema) (rs : List Record) (e : Err)
    (h : append t arg rs = .error e) :
    (e = .schemaMismatch ∧ ∃ a, arg = some a ∧ a ≠ t.schema) ∨ (e = .badRecord ∧ ∃ r ∈ rs, recordOk t.schema r = false) := by
  rcases append_arg t arg rs with ⟨a, ha, hne, he⟩ | harg
  · rw [he] at h; cases h; exact .inl ⟨rfl, a, ha, hne⟩
  · rw [append_resolved t arg rs harg] at h
    split at h
    next => cases h
    next hr => cases h; exact .inr ⟨rfl, by simpa using hr⟩

def Good (t : Table) : Prop := scanWorks t = true ∧ pruneSound t = true

theorem append_good (t : Table) (arg : Option Schema) (rs : List Record) (t' : Table)
    (hg : Good t) (h : append t arg rs = .ok t') : Good t' := by
  obtain ⟨_, _, rfl⟩ := append_ok t arg rs t' h
  simpa only [Good, scanWorks, pruneSound, List.all_append, List.all_cons, List.all_nil, beq_self_eq_true,
    Bool.and_true] using hg

/-- what every accepted append preserves holds after any history: rejected operations leave the table as it was -/
theorem run_preserves (P : Table → Prop) (hP : ∀ t arg rs t', P t → append t arg rs = .ok t' → P t')
    (t : Table) (ops : List Op) (h : P t) : P (run t ops) := by
  induction ops generalizing t with
  | nil => exact h
  | cons o os ih =>
    simp only [run, List.foldl_cons]
    cases hap : append t o.arg o.rows with
    | error e => exact ih t h
    | ok t' => exact ih t' (hP t o.arg o.rows t' h hap)

/-- C11, scans keep working: after ANY history of appends — accepted or rejected, with any schema arguments and batches —
every file has the table's column layout (full scans concatenate) and its bounds under the table's ids (pruning is sound) -/
theorem append_keeps_scans (t : Table) (ops : List Op) (hg : Good t) : Good (run t ops) :=
  run_preserves Good append_good t ops hg

theorem run_schema (t : Table) (ops : List Op) : (run t ops).schema = t.schema :=
  run_preserves (·.schema = t.schema) (fun _ _ _ _ hu h => (append_ok _ _ _ _ h).2.2 ▸ hu) t ops rfl

/-- for EVERY value: whatever pyarrow would silently alter, the validator refuses (no table involved) -/
theorem guard_covers_lossy (ty : String) (a : Attrs) (h : lossySpec ty a = true) : guardRefuses ty a = true := by
  simp only [lossySpec, Bool.or_eq_true, Bool.and_eq_true, beq_iff_eq] at h
  -- each of the three silent conversions of `lossySpec` lands in the branch of `_reject_lossy_value` written for it
  rcases h with (⟨⟨⟨hty, hpy⟩, _⟩, hw⟩ | ⟨⟨⟨rfl, hpy⟩, hf⟩, ho⟩) | ⟨⟨rfl, hpy⟩, ht⟩
  · rcases hpy with hpy | hpy <;> simp [guardRefuses, hty, hpy, hw]
  · rcases hpy with hpy | hpy <;> simp [guardRefuses, hpy, hf, ho]
  · simp [guardRefuses, hpy, ht]

/-- whenever the class is known, pyarrow's verdict follows the specification and the value is accepted, the conversion is
exact: a lossy conversion would have been refused by the validator -/
theorem fits_exact_of_spec (ty cls : String) (a : Attrs) (ha : attrs ty cls = some a)
    (hs : arrow ty cls = .lossy → lossySpec ty a = true) (hf : fits ty cls = true) : arrow ty cls = .exact := by
  simp only [fits, ha, Bool.and_eq_true, bne_iff_ne] at hf
  obtain ⟨hg, hr⟩ := hf
  cases har : arrow ty cls with
  | exact => rfl
  | reject => exact absurd har hr
  | lossy => rw [guard_covers_lossy ty a (hs har)] at hg; cases hg

/-- on the measured grid, pyarrow alters a value exactly where the specification says it is not representable -/
theorem grid_lossy_spec : ∀ p ∈ grid, ∃ a, attrs p.1 p.2 = some a ∧ (arrow p.1 p.2 = .lossy ↔ lossySpec p.1 a = true) := by
  decide +kernel

/-- C11, faithfulness on the measured grid: every accepted (column type, value class) is converted exactly -/
theorem coerce_faithful : ∀ p ∈ grid, fits p.1 p.2 = true → arrow p.1 p.2 = .exact := by
  intro p hp hf
  obtain ⟨a, ha, hs⟩ := grid_lossy_spec p hp
  exact fits_exact_of_spec p.1 p.2 a ha hs.1 hf

/-- every value of an accepted batch was converted exactly (grid classes) -/
theorem append_values_exact (t : Table) (arg : Option Schema) (rs : List Record) (t' : Table)
    (h : append t arg rs = .ok t') :
    ∀ r ∈ rs, ∀ kv ∈ r, ∃ ty, tyOf t.schema kv.1 = some ty ∧ fits ty kv.2 = true := by
  intro r hr kv hkv
  have hv := append_validated t arg rs t' h r hr
  unfold recordOk at hv
  simp only [Bool.and_eq_true, List.all_eq_true] at hv
  have := hv.2 kv hkv
  split at this
  · rename_i ty hty
    exact ⟨ty, hty, this⟩
  · cases this

/-! ### the as-found code, refuted -/

def base : Schema := [⟨1, "a", "long", true⟩, ⟨2, "b", "long", false⟩, ⟨3, "c", "string", false⟩]
def reordered : Schema := [⟨2, "b", "long", false⟩, ⟨1, "a", "long", true⟩, ⟨3, "c", "string", false⟩]
def renumbered : Schema := [⟨2, "a", "long", true⟩, ⟨1, "b", "long", false⟩, ⟨3, "c", "string", false⟩]
def t0 : Table := { schema := base, files := [{ layout := layout base, boundKeys := boundKeys base, rows := [] }] }
def rec1 : Record := [("a", "max"), ("b", "min"), ("c", "ascii")]

theorem rec1_ok : ∀ a ∈ [base, reordered, renumbered], [rec1].all (recordOk a) = true := by decide +kernel

/-- as found: a reordered schema argument was accepted although the file it writes has another column layout -/
theorem old_accepts_reordered : acceptsArgOld base reordered = true ∧ layout reordered ≠ layout base
    ∧ acceptsArg base reordered = false := by decide +kernel

/-- as found: re-numbered field ids were accepted although the bounds then sit under another column's id -/
theorem old_accepts_renumbered : acceptsArgOld base renumbered = true ∧ boundKeys renumbered ≠ boundKeys base
    ∧ acceptsArg base renumbered = false := by decide +kernel

/-- as found: one accepted append breaks every later scan (and pruning) -/
theorem old_history_breaks_scan :
    (∃ t', appendOld t0 (some reordered) [rec1] = .ok t' ∧ scanWorks t' = false) ∧
    (∃ t', appendOld t0 (some renumbered) [rec1] = .ok t' ∧ pruneSound t' = false) := by
  exact ⟨⟨_, appendWith_ok _ _ _ _ (by decide +kernel) (rec1_ok _ (.tail _ (.head _))), by decide +kernel⟩,
    ⟨_, appendWith_ok _ _ _ _ (by decide +kernel) (rec1_ok _ (.tail _ (.tail _ (.head _)))), by decide +kernel⟩⟩

/-- as found (pyarrow alone decides): values are accepted and altered -/
theorem old_fits_lossy : ∃ p ∈ grid, fitsOld p.1 p.2 = true ∧ arrow p.1 p.2 = .lossy ∧ fits p.1 p.2 = false :=
  ⟨("long", "float-fractional"), by decide +kernel⟩

/-- an accepted pre-built file has exactly the table's Arrow schema; a table whose files all concatenate keeps doing so -/
theorem file_keeps_scans (t : PTable) (ft : Footer) (t' : PTable) (hg : concatWorks t = true)
    (h : appendFileWith fileAccepts t ft = some t') : ft = arrowSchema t.schema ∧ concatWorks t' = true := by
  unfold appendFileWith at h
  split at h
  next hacc =>
    cases h
    obtain rfl : ft = arrowSchema t.schema := by simpa [fileAccepts] using hacc
    exact ⟨rfl, by simpa only [concatWorks, List.all_append, List.all_cons, List.all_nil, beq_self_eq_true,
      Bool.and_true] using hg⟩
  next => cases h

/-- any history of file-level appends (accepted or rejected) keeps the table scannable -/
theorem files_keep_scans (t : PTable) (fts : List Footer) (hg : concatWorks t = true) :
    concatWorks (fts.foldl (fun t ft => (appendFileWith fileAccepts t ft).getD t) t) = true := by
  induction fts generalizing t with
  | nil => exact hg
  | cons ft rest ih =>
    simp only [List.foldl_cons]
    cases hap : appendFileWith fileAccepts t ft with
    | none => exact ih t hg
    | some t' => exact ih t' (file_keeps_scans t ft t' hg hap).2

def fbase : Schema := [⟨1, "a", "long", true⟩, ⟨2, "b", "string", false⟩]
def pt0 : PTable := { schema := fbase, footers := [arrowSchema fbase] }
def allNullable : Footer := [("a", "pa.int64()", true), ("b", "pa.string()", true)]

/-- a check that ignores nullability accepts a file after which the table no longer concatenates -/
theorem nullability_ignored_breaks_scan :
    (∃ t', appendFileWith fileAcceptsNoNull pt0 allNullable = some t' ∧ concatWorks t' = false) ∧
    appendFileWith fileAccepts pt0 allNullable = none := by
  have h : fileAcceptsNoNull pt0.schema allNullable = true ∧
      concatWorks { pt0 with footers := pt0.footers ++ [allNullable] } = false ∧
      appendFileWith fileAccepts pt0 allNullable = none := by decide +kernel
  exact ⟨⟨_, if_pos h.1, h.2.1⟩, h.2.2⟩

example : concatWorks pt0 = true ∧ (appendFileWith fileAccepts pt0 (arrowSchema fbase)).isSome = true := by decide +kernel

/-! ### non-vacuity -/
example : Good t0 := by unfold Good; decide +kernel
example : ∃ t', append t0 (some base) [rec1] = .ok t' ∧ scanRows t' = [rec1] :=
  ⟨_, appendWith_ok _ _ _ _ (by decide +kernel) (rec1_ok _ (.head _)), by decide +kernel⟩
example : append t0 (some reordered) [rec1] = .error .schemaMismatch := by decide +kernel
example : append t0 none [[("b", "min")]] = .error .badRecord := by decide +kernel
example : fits "int" "float-integral" = true ∧ fits "int" "float-fractional" = false := by decide +kernel

end DSV.Props.C11

namespace DSV.Props.C11
open DSV.TxOps

theorem queued_appends_exact (ops : List Op) :
    (partition ops).appends = ops.flatMap fun o => match o with | .appendFiles fs => fs | _ => [] :=
  (foldl_stepPart ops ⟨[], [], none⟩).1

/-- **all_queued_appends_committed** — every file of EVERY append queued in a transaction reaches the commit (queue order kept) -/
theorem all_queued_appends_committed (ops : List Op) (fs : List Nat) (h : Op.appendFiles fs ∈ ops) :
    ∀ f ∈ fs, f ∈ (partition ops).appends := by
  intro f hf
  rw [queued_appends_exact]
  exact List.mem_flatMap.2 ⟨_, h, hf⟩

/-- what the property excludes: keeping only the last queued append -/
theorem last_append_only_loses_rows :
    ([Op.appendFiles [1, 2], .appendFiles [3], .deleteFiles [9], .appendFiles [4]].foldl stepPartLastAppendOnly ⟨[], [], none⟩).appends = [4] ∧
    (partition [Op.appendFiles [1, 2], .appendFiles [3], .deleteFiles [9], .appendFiles [4]]).appends = [1, 2, 3, 4] := by
  decide +kernel

end DSV.Props.C11
