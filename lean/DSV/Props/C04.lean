import DSV.Proofs.SkelTx
import DSV.Model.CommitFault
/-!
C04 — a failed, interrupted or ambiguous commit never damages committed data.
The quantifier here is finite by nature (backend × call style × phase of the fault × kind of fault × has-written-files),
so the theorems go through the whole table, not a sample: `outcome` has one row per (phase, kind) and looks at the backend
only in the row of a pointer write that raises before its effect, and the proofs split exactly there.
-/
namespace DSV.CommitFault

/-- The commit point: every fault leaves either the pre-state (pointer not flipped, and no success reported) or the
post-state (pointer flipped, none of the transaction's files deleted, and no storage error reported). -/
theorem pre_or_post (b : Backend) (st : Style) (pt : Point) (k : Kind) (w : Bool) :
    ((outcome true b st pt k w).flipped = false ∧ (outcome true b st pt k w).outcome ≠ .ok) ∨
    ((outcome true b st pt k w).flipped = true ∧ (outcome true b st pt k w).deleted = false ∧
      (outcome true b st pt k w).outcome ≠ .storageError) := by
  cases pt
  case preAppend | preCommit => cases k <;> exact .inl ⟨rfl, nofun⟩
  case release | finish => cases k <;> exact .inr ⟨rfl, rfl, nofun⟩
  case flip =>
    cases k
    case exc => cases b <;> exact .inl ⟨rfl, nofun⟩
    case excAfter => exact .inr ⟨rfl, rfl, nofun⟩
    case kbd => exact .inl ⟨rfl, nofun⟩

/-- **referenced_present** — whatever fails or interrupts, wherever: the transaction's files are never deleted once the
pointer names the version that references them. -/
theorem referenced_present (b : Backend) (st : Style) (pt : Point) (k : Kind) (w : Bool) :
    ¬ ((outcome true b st pt k w).flipped = true ∧ (outcome true b st pt k w).deleted = true) := by
  rcases pre_or_post b st pt k w with ⟨hf, _⟩ | ⟨_, hd, _⟩
  · simp [hf]
  · simp [hd]

/-- **outcome_sound** — success is reported only in the post-state (that a raise leaves pre or post is `pre_or_post`). -/
theorem outcome_sound (b : Backend) (st : Style) (pt : Point) (k : Kind) (w : Bool) :
    ((outcome true b st pt k w).outcome = .ok → (outcome true b st pt k w).flipped = true) := by
  rcases pre_or_post b st pt k w with ⟨_, ho⟩ | ⟨hf, _⟩
  · exact fun h => absurd h ho
  · exact fun _ => hf

/-- **storage_error_is_pre** — a raise reported as a storage error leaves the pre-state. -/
theorem storage_error_is_pre (b : Backend) (st : Style) (pt : Point) (k : Kind) (w : Bool) :
    (outcome true b st pt k w).outcome = .storageError → (outcome true b st pt k w).flipped = false := by
  rcases pre_or_post b st pt k w with ⟨hf, _⟩ | ⟨_, _, ho⟩
  · exact fun _ => hf
  · exact fun h => absurd h ho

/-- **ambiguous_keeps_files** — when the outcome of the pointer write is unknowable the error is reported as ambiguous
and no file of the transaction is deleted; on the local backend a pointer-write failure is never ambiguous. -/
theorem ambiguous_keeps_files (b : Backend) (st : Style) (pt : Point) (k : Kind) (w : Bool)
    (hobj : k = .excAfter → b ≠ .localFs) :          -- "exception after effect" exists on object storage only
    ((outcome true b st pt k w).outcome = .ambiguous → (outcome true b st pt k w).deleted = false ∧ pt = .flip ∧ b ≠ .localFs) ∧
    (pt = .flip ∧ k = .excAfter → (outcome true b st pt k w).outcome = .ambiguous) := by
  cases pt
  case flip =>
    cases k
    case exc =>
      refine ⟨?_, fun h => nomatch h.2⟩
      cases b
      case localFs => nofun
      all_goals exact fun _ => ⟨rfl, rfl, nofun⟩
    case excAfter => exact ⟨fun _ => ⟨rfl, rfl, hobj rfl⟩, fun _ => rfl⟩
    case kbd => exact ⟨nofun, fun h => nomatch h.2⟩
  -- away from the pointer write nothing is reported as ambiguous
  all_goals cases k <;> exact ⟨nofun, fun h => nomatch h.1⟩

/-- **post_commit_faults_are_silent** — after the commit point a failing lock release or marker cleanup never turns a
durable commit into a reported failure. -/
theorem post_commit_faults_are_silent (b : Backend) (st : Style) (pt : Point) (k : Kind) (w : Bool)
    (hp : pt = .release ∨ pt = .finish) (hk : k ≠ .kbd) : (outcome true b st pt k w) = ⟨.ok, true, false⟩ := by
  cases k
  case kbd => exact absurd rfl hk
  all_goals rcases hp with rfl | rfl <;> rfl

/-- Full statement for the code as found. -/
def ReferencedPresent (catchBase : Bool) : Prop :=
  ∀ b st pt k w, ¬ ((outcome catchBase b st pt k w).flipped = true ∧ (outcome catchBase b st pt k w).deleted = true)

/-- **referenced_present_refuted** (regression witness; the code as found) — a KeyboardInterrupt delivered after the pointer
write and before the transaction is marked committed (e.g. while the lock is released) inside a `with` block: `__exit__`
rolls back and deletes the data file the committed snapshot references. -/
theorem referenced_present_refuted : ¬ ReferencedPresent false := by
  intro h
  exact h .localFs .ctx .release .kbd true (by decide)

theorem referenced_present_fixed : ReferencedPresent true := fun b st pt k w => referenced_present b st pt k w

/-- **body_failure_never_commits** — however the body of a with-block fails (an `Exception` or an interrupt), `__exit__` never
commits the operations queued so far -/
theorem body_failure_never_commits (e : BodyEnd) (active : Bool) (h : e ≠ .normal) : exitAction e active ≠ .commit := by
  cases e
  case normal => exact absurd rfl h
  all_goals cases active <;> nofun

/-- what the property excludes: testing for `Exception` only commits a partial transaction on an interrupt -/
theorem exception_only_exit_commits_on_interrupt : exitActionExceptionOnly .interrupt true = .commit := by decide

/-- **reuse_deletes_only_own_attempt** — with the memory reset by `begin()`, a cleanly failing attempt deletes exactly the
files of THAT attempt, whatever earlier attempts of the same object ended with -/
theorem reuse_deletes_only_own_attempt (m : TxMem) (newFiles : List Nat) :
    (attempt true m newFiles .cleanFailure).2 = newFiles := by
  simp [attempt]

/-- what the property excludes: without the reset, the files of an earlier ambiguous (possibly durable) attempt are deleted by a
later clean failure -/
theorem reuse_without_reset_deletes_earlier_files :
    let (m1, _) := attempt false ⟨[]⟩ [1] .ambiguous
    (attempt false m1 [2] .cleanFailure).2 = [1, 2] := by decide

end DSV.CommitFault

/-! ## Tie to the current source: which handler of `Transaction.commit` keeps and which deletes the written files -/
namespace DSV.Src.C04
open DSV.Skel DSV.Generated.Skel

/-- **source_commit_handlers** — in the CURRENT source: a conflict (retries exhausted) and a known-pre-commit error roll back
deleting the written files; an ambiguous pointer write and an interrupt (BaseException) deactivate the transaction KEEPING
them; nothing fallible follows the commit call but `_finish_committed`. -/
theorem source_commit_handlers :
    project txVoc txCommit = ["finish", "commit", "commit", "finish",
                              "onConflict", "rollbackDelete", "onAmbiguous", "rollbackKeep",
                              "onError", "rollbackDelete", "onInterrupt", "rollbackKeep", "rollbackDelete"] := txCommit_steps

/-- **source_finish_swallows** — `_finish_committed` (after the commit point) removes markers inside a catch-all handler. -/
theorem source_finish_swallows :
    txFinishCommitted = ["try", "file_manager.storage.delete_file", "except:Exception", "end-try"] := rfl

/-- **source_flip_failure_classes** — the commit-point routine maps a CAS conflict to a retryable conflict and every other
failure of a conditional or non-atomic write to AmbiguousCommitError. -/
theorem source_flip_failure_classes :
    project [("except:CASConflictError", "onCas"), ("raise:ConcurrentModificationException", "conflict"),
             ("except:Exception", "onOther"), ("raise:AmbiguousCommitError", "ambiguous"), ("raise", "reraise")] mmWriteHint
      = ["onCas", "conflict", "onOther", "ambiguous", "onOther", "reraise", "ambiguous"] := by decide +kernel

/-- **source_rollback_is_best_effort** — the CURRENT `_rollback` deletes written files and markers each inside a catch-all:
a failing cleanup never turns into a second exception that masks the commit's outcome. -/
theorem source_rollback_is_best_effort :
    project [("file_manager.storage.exists", "exists"), ("file_manager.storage.delete_file", "delete"),
             ("except:Exception", "swallow"), ("raise", "reraise")] txRollback
      = ["exists", "delete", "swallow", "delete", "swallow"] := by decide +kernel

end DSV.Src.C04
