import DSV.Model.Skeleton
import DSV.Generated.Skeleton
import DSV.Proofs.Occ
/-!
C01 — concurrent commits are serializable: no acknowledged write lost or duplicated.
Model: `DSV/Model/Occ.lean` (any number of committers, any interleaving of their storage-level steps, any clock —
ticks of 0 ms included, data and metadata-only commits).  Proofs: `DSV/Proofs/Occ.lean`.
-/
namespace DSV.Occ

/-- **serial** — with real mutual exclusion (local backend) or with the conditional pointer write (CAS backend, nothing
assumed about the lock), in every reachable state of every interleaving: each pointer flip replaced exactly the version
its new version was derived from, the flips form one chain from the initial version, and the pointer names its head. -/
theorem serial (cfg : Cfg) (kind : Nat → Kind) (h : LocalCfg cfg ∨ CasCfg cfg) (s : Sys) (hr : Reach cfg kind s) :
    FlipsOk s ∧ Chain s.flips ∧ s.hint.fid = headFid s.flips :=
  (inv_reach h hr).serial

/-- **final_is_fold** — the table the pointer names is the result of applying exactly the transactions that flipped,
one after another, in the order the pointer advanced. -/
theorem final_is_fold (cfg : Cfg) (kind : Nat → Kind) (h : LocalCfg cfg ∨ CasCfg cfg) (s : Sys) (hr : Reach cfg kind s) :
    ∃ v, current s = some v ∧ v.applied = (s.flips.map (·.actor)).reverse :=
  have ⟨v, h1, h2, _⟩ := (inv_reach h hr).cur
  ⟨v, h1, h2⟩

/-- **ack_iff_flip** — a transaction is reflected (has a flip) iff it passed its commit point, and never twice;
one that ended with an error (`done false`) or is still retrying has none. -/
theorem ack_iff_flip (cfg : Cfg) (kind : Nat → Kind) (s : Sys) (hr : Reach cfg kind s) (a : Nat) :
    (a ∈ s.flips.map (·.actor) ↔ (∃ n, s.pc a = .flipped n) ∨ s.pc a = .done true) ∧ (s.flips.map (·.actor)).Nodup :=
  have hi := ackInv_reach hr
  ⟨hi.1 a, hi.2⟩

/-- the local backend with the stamp as found (`last_updated_ms := now`) -/
def asFoundLocal : Cfg := { cas := false, exclusive := true, strictStamp := false, singleRead := false }

/-- the schedule of the refutation: two metadata-only commits (e.g. two `delete_snapshot` of non-current snapshots)
from one stale base, with a clock that does not advance between them -/
def staleBaseSched : List (Nat × Act) :=
  [(1, .readBase), (2, .readBase),
   (2, .acquire), (2, .validate), (2, .writeMeta 0), (2, .fence true), (2, .flip), (2, .release false),
   (1, .acquire), (1, .validate), (1, .writeMeta 0), (1, .fence true), (1, .flip), (1, .release false)]

/-- **serial_refuted** (regression witness; the code as found) — the OCC stamp `(current_snapshot_id, last_updated_ms)`
is not injective under equal-millisecond clocks: both metadata-only commits are acknowledged, and the second one
replaces the first although it was derived from the version before it — an acknowledged update is lost. -/
theorem serial_refuted : ∃ s, Reach asFoundLocal (fun _ => .metaOnly) s ∧ ¬ FlipsOk s ∧
    s.pc 1 = .done true ∧ s.pc 2 = .done true :=
  -- the newer flip was derived from version 0 and replaced version 1
  lost_update_witness (sched := staleBaseSched) (f := ⟨1, 0, 1, 2⟩) (rest := [⟨2, 0, 0, 1⟩]) (by decide) (by decide +kernel)

/-- Non-vacuity of `serial`: a reachable state of the repaired local configuration with two flips by two actors,
one of which hit a conflict and retried. -/
def repairedLocal : Cfg := { cas := false, exclusive := true, strictStamp := true, singleRead := false }
example : ((runSched repairedLocal (init fun _ => .metaOnly)
    [(1, .readBase), (2, .readBase), (2, .acquire), (2, .validate), (2, .writeMeta 0), (2, .fence true), (2, .flip), (2, .release false),
     (1, .acquire), (1, .validate), (1, .release true), (1, .readBase), (1, .acquire), (1, .validate), (1, .writeMeta 0),
     (1, .fence true), (1, .flip), (1, .release false)]).map (·.flips)) = some [⟨1, 1, 1, 2⟩, ⟨2, 0, 0, 1⟩] := by decide +kernel

end DSV.Occ

/-! ## Tie to the current source: the call skeleton of `MetadataManager.commit` (regenerated on every run) -/
namespace DSV.Src.C01
open DSV.Skel DSV.Generated.Skel

/-- **occ_enabled_order** — the model's program counter admits the protocol steps in one order only: each step is enabled only
at the program point its predecessor leaves. -/
theorem occ_enabled_order (cfg : Occ.Cfg) (s s' : Occ.Sys) (a : Nat) (act : Occ.Act) (h : Occ.step cfg s a act = some s') :
    match act with
    | .acquire => ∃ b, s.pc a = .based b
    | .validate => ∃ b, s.pc a = .locked b
    | .writeMeta _ => ∃ b c e, s.pc a = .validated b c e
    | .fence _ => ∃ b n e, s.pc a = .wrote b n e
    | .flip => ∃ b n e, s.pc a = .fenced b n e
    | .release _ => (∃ n, s.pc a = .flipped n) ∨ s.pc a = .conflict
    | _ => True := by
  cases act with
  | acquire => obtain ⟨b, hp, _⟩ := Occ.step_acquire h; exact ⟨b, hp⟩
  | validate => obtain ⟨b, _, hp, _⟩ := Occ.step_validate h; exact ⟨b, hp⟩
  | writeMeta t => obtain ⟨b, c, e, hp, _⟩ := Occ.step_writeMeta h; exact ⟨b, c, e, hp⟩
  | fence held => obtain ⟨b, n, e, hp, _⟩ := Occ.step_fence h; exact ⟨b, n, e, hp⟩
  | flip => obtain ⟨b, n, e, hp, _⟩ := Occ.step_flip h; exact ⟨b, n, e, hp⟩
  | release retry => exact (Occ.step_release h).imp And.left And.left
  | _ => trivial

/-- **occ_protocol_commits** — that one order is live: a lone committer performing the steps in it reaches `done true`
with its transaction applied. -/
theorem occ_protocol_commits :
    ((Occ.runSched ⟨false, true, true, true⟩ (Occ.init (fun _ => .snap)) ((1, Occ.Act.readBase) :: occProtocol.map (fun x => (1, x)))).map
      (fun s => (s.pc 1, (Occ.current s).map (·.applied)))) = some (.done true, some [1]) := by decide +kernel

/-- **source_commit_reads_once_per_branch** — each backend branch validates against ONE read: the source has exactly one
ETag'd read and one plain refresh in `commit`, and no step is repeated. -/
theorem source_commit_reads_once_per_branch :
    project occVoc mmCommit = ["acquire", "validate", "validate", "writeMeta", "fence", "flip", "discard", "release"] := by decide +kernel

/-- **source_commit_follows_protocol** — the CURRENT source of `MetadataManager.commit` performs the protocol steps in exactly
the order `occ_enabled_order` admits: lock, validation read (both backend branches), metadata file, fencing check, pointer flip, (discard on a clean
failure), release. -/
theorem source_commit_follows_protocol :
    dedupAdj (project occVoc mmCommit) = ["acquire", "validate", "writeMeta", "fence", "flip", "discard", "release"] ∧
    (dedupAdj (project occVoc mmCommit)).filter (· != "discard") = occProtocol.filterMap occTag := by
  rw [source_commit_reads_once_per_branch]; decide +kernel

end DSV.Src.C01
