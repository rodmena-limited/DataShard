import DSV.Model.Read
/-!
C14 — reads fail closed. The quantifier (file kind × damage class × touches × checksum option) is finite: the theorems are
proved over the whole table.
-/
namespace DSV.Read

/-- **damaged_touched_raises** — a manifest list, manifest or data file that is missing, unparseable or failing transiently,
or a metadata file that is unparseable or failing transiently, makes every read API that touches it raise. -/
theorem damaged_touched_raises (k : Kind) (st : Status) (c : Bool)
    (hs : st = .missing ∨ st = .unparseable ∨ st = .transient) (hm : ¬ (k = .metadata ∧ st = .missing)) :
    readOutcome k st true c = .raise := by
  rcases hs with rfl | rfl | rfl
  · cases k
    case metadata => exact absurd ⟨rfl, rfl⟩ hm
    all_goals rfl
  · rfl
  · rfl

/-- **never_subset** — a read never answers with something other than the undamaged result except in the two cases named:
the current metadata file missing (known finding), or a data file altered while checksum verification is switched off
(and altered-but-parseable metadata-plane files, which carry no checksum and are outside the property). -/
theorem never_subset (k : Kind) (st : Status) (t c : Bool) (h : readOutcome k st t c = .different) :
    (k = .metadata ∧ st = .missing) ∨ (st = .altered ∧ (k ≠ .data ∨ c = false)) := by
  cases t
  · cases h
  cases st
  case missing | altered => cases k <;> simp_all [readOutcome]
  all_goals cases h

/-- **checksum_detects** — with verification on, any change to a data file's bytes raises instead of yielding altered rows. -/
theorem checksum_detects (st : Status) (hs : st ≠ .ok) : readOutcome .data st true true = .raise := by
  cases st
  case ok => exact absurd rfl hs
  all_goals rfl

/-- an API that does not touch the damaged kind answers exactly as before -/
theorem untouched_same (k : Kind) (st : Status) (c : Bool) : readOutcome k st false c = .same := rfl

/-- Full statement incl. the metadata file. -/
def DamagedTouchedRaises : Prop :=
  ∀ k st c, (st = Status.missing ∨ st = .unparseable ∨ st = .transient) → readOutcome k st true c = .raise

/-- **damaged_touched_raises_refuted** — the current metadata file missing does not raise: recovery serves an older version. -/
theorem damaged_touched_raises_refuted : ¬ DamagedTouchedRaises :=
  fun h => nomatch h .metadata .missing true (.inl rfl)

end DSV.Read
