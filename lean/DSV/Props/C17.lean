import DSV.Model.Path
/-!
C17 — no operation escapes the table root (lexical core; symlinks are exercised on a real filesystem by the check).
-/
namespace DSV.Path

/-- both containment checks have this shape: the canonical path is handed out only if the root is a prefix of it -/
theorem guard_prefix {base x q : List Comp} (h : (if base.isPrefixOf x then some x else none) = some q) :
    base <+: q ∧ x = q := by
  split at h
  next hpre => cases h; exact ⟨List.isPrefixOf_iff_prefix.1 hpre, rfl⟩
  next => cases h

/-- **resolve_inside** — whatever the input string (`..`, `.`, empty components, doubled slashes, absolute-looking paths),
a path the resolver accepts has the root as a COMPONENT-WISE prefix. -/
theorem resolve_inside (base : List Comp) (p : List Char) (q : List Comp) (h : resolveLex base p = some q) : base <+: q :=
  (guard_prefix h).1

theorem norm_clean (cs : List Comp) : ∀ acc : List Comp, Clean acc → Clean (norm acc cs) := by
  intro acc
  -- the branches of `norm`: end of input (the accumulator is reversed), '' or '.' dropped, '..' pops, anything else is pushed
  fun_induction norm acc cs with
  | case1 acc => exact fun h c hc => h c (List.mem_reverse.mp hc)
  | case2 acc c rest _ ih => exact ih
  | case3 acc rest _ ih => exact fun h => ih fun x hx => h x (List.mem_of_mem_tail hx)
  | case4 acc c rest h1 h2 ih =>
    refine fun h => ih fun x hx => ?_
    rcases List.mem_cons.mp hx with rfl | hx
    · exact ⟨fun e => h1 (Or.inl e), fun e => h1 (Or.inr e), h2⟩
    · exact h x hx

/-- **resolve_clean** — the accepted path is canonical: no empty, `.` or `..` component is left, so what is opened is
exactly the path that was checked. -/
theorem resolve_clean (base : List Comp) (hb : Clean base) (p : List Char) (q : List Comp)
    (h : resolveLex base p = some q) : Clean q :=
  (guard_prefix h).2 ▸ norm_clean _ _ fun c hc => hb c (List.mem_reverse.mp hc)

/-- **abs_is_relative** — an absolute-looking argument (`/etc/passwd`, `//x`) is not honoured as a system path: it is
resolved relative to the root exactly like the same path without its leading slashes. -/
theorem abs_is_relative (base : List Comp) (p : List Char) : resolveLex base ('/' :: p) = resolveLex base p := by
  unfold resolveLex lstripSlash
  simp

/-- **string_prefix_is_wrong** — why containment must be component-wise: for the root `/wh` the sibling `/wh2/x` passes a
string-prefix test although it is outside. -/
theorem string_prefix_is_wrong :
    stringPrefixInside [['w', 'h']] [['w', 'h', '2'], ['x']] = true ∧ ¬ ([['w', 'h']] <+: [['w', 'h', '2'], ['x']]) := by
  decide +kernel

/-- **arrow_inside** — the read path: table-relative spellings go through the resolver, a true absolute path is honoured
only when its canonical form lies inside the root; in both branches an accepted path is inside. -/
theorem arrow_inside (base : List Comp) (p : List Char) (q : List Comp) (h : arrowPath base p = some q) : base <+: q := by
  unfold arrowPath at h
  split at h
  · exact resolve_inside base p q h
  · exact (guard_prefix h).1

/-- **s3_key_under_prefix** — object storage: for EVERY path string the key requested lies under the table's prefix (the prefix, a
slash, then the path with its leading slashes stripped — byte for byte). -/
theorem s3_key_under_prefix (pref p : List Char) (h : pref ≠ []) : (pref ++ ['/']) <+: s3Key pref p := by
  unfold s3Key
  rw [if_neg h]
  exact ⟨lstripSlash p, by simp⟩

/-- **s3_key_literal** — nothing in the path is interpreted: two paths give the same key only when they are the same string after
the leading slashes -/
theorem s3_key_literal (pref p q : List Char) (h : s3Key pref p = s3Key pref q) : lstripSlash p = lstripSlash q := by
  unfold s3Key at h
  split at h
  · exact h
  · simpa using h

/-- what the property excludes: normalising the joined key lets `..` climb out of the prefix into a neighbouring table -/
theorem normalised_key_escapes :
    s3KeyNormalised "wh/orders".toList "../customers/x".toList = "wh/customers/x".toList ∧
    ¬ ("wh/orders/".toList <+: s3KeyNormalised "wh/orders".toList "../customers/x".toList) ∧
    "wh/orders/".toList <+: s3Key "wh/orders".toList "../customers/x".toList := by
  -- the literals as explicit character lists first, so that the evaluation does not have to decode them
  repeat rw [String.toList_ofList]
  decide +kernel

/-- escaping spellings are rejected, not silently mapped to some other file (non-vacuity of the `none` branch) -/
example : resolveLex [['s'], ['r']] "../r2/x".toList = none := by rw [String.toList_ofList]; decide +kernel
example : resolveLex [['s'], ['r']] "data/../../../etc".toList = none := by rw [String.toList_ofList]; decide +kernel
example : resolveLex [['s'], ['r']] "/data//./x".toList = some [['s'], ['r'], "data".toList, ['x']] := by
  repeat rw [String.toList_ofList]
  decide +kernel
example : arrowPath [['s'], ['r']] "/s/r2/f".toList = none := by rw [String.toList_ofList]; decide +kernel
example : arrowPath [['s'], ['r']] "/s/r/data/f".toList = some [['s'], ['r'], "data".toList, ['f']] := by
  repeat rw [String.toList_ofList]
  decide +kernel

end DSV.Path
