import DSV.Proofs.Filter
import DSV.Model.FilterParse
/-!
C12 — filters mean what SQL says, identically in every scan API.
-/
namespace DSV.Filter

/-- **build_is_sql** — for every expression and every row (NULL / NaN / value in the filtered column),
the compute expression built by `_build_condition` keeps the row iff the SQL three-valued reference
evaluates to TRUE.  Hypothesis: the value set carries no NaN (NaN membership is unspecified, DESIGN §7). -/
theorem build_is_sql (e : Expr) (r : Row) (h : NoNanInSet e) :
    keeps (build e) r = true ↔ evalSql e r = Tri.t := by
  obtain ⟨c, op, lit, set⟩ := e
  cases op
  case isNull | isNotNull => simp [keeps, build, evalArrow, evalSql, evalSqlV, ofBool_eq_t]
  case isIn => exact (in_is_sql c lit set r h).1
  case notIn => exact (in_is_sql c lit set r h).2
  -- the six comparisons: `build` and `evalSqlV` fall through to their last rows
  all_goals exact cmp_is_sql _ c lit r

/-- Non-vacuity: a concrete expression with a NULL-containing value set satisfies the hypothesis. -/
example : NoNanInSet { col := 0, op := .notIn, lit := .null, set := [.val 1, .null] } := by
  simp [NoNanInSet]

theorem keeps_foldl (es : List Expr) (acc : AExp) (r : Row) :
    keeps (es.foldl (fun a x => AExp.and a (build x)) acc) r =
      (keeps acc r && es.all fun e => keeps (build e) r) := by
  induction es generalizing acc with
  | nil => simp
  | cons e rest ih => rw [List.foldl_cons, ih, keeps_and, List.all_cons, Bool.and_assoc]

theorem keepsAll_eq_all (es : List Expr) (r : Row) : keepsAll es r = es.all fun e => keeps (build e) r := by
  unfold keepsAll buildAll
  cases es with
  | nil => rfl
  | cons e rest => simp only [keeps_foldl, List.all_cons]

/-- **conj_is_sql** — a filter dict with any number of conditions keeps exactly the rows on which every
condition is SQL-TRUE (left-fold of `&`, Kleene). -/
theorem conj_is_sql (es : List Expr) (r : Row) (h : ∀ e ∈ es, NoNanInSet e) :
    keepsAll es r = evalSqlAll es r := by
  rw [keepsAll_eq_all, evalSqlAll, Bool.eq_iff_iff]
  simp only [List.all_eq_true, beq_iff_eq]
  exact forall_congr' fun e => forall_congr' fun he => build_is_sql e r (h e he)

/-- **apis_agree (batches)** — `scan_batches` with any positive batch size yields, concatenated, exactly
what `scan` returns (sequential or parallel; `executor.map` preserves file order). -/
theorem apis_agree_batches (n : Nat) (es : List Expr) (files : List File) :
    (batchesApi n es files).flatten = scanApi es files := by
  unfold batchesApi scanApi
  rw [List.flatten_filter_not_isEmpty]
  induction files with
  | nil => rfl
  | cons f rest ih =>
    rw [List.flatMap_cons, List.flatten_append, ih, List.map_cons, List.flatten_cons, ← List.filter_flatten,
      chunks_flatten]

/-- **apis_agree (records)** — `iter_records` yields the same rows in the same order. -/
theorem apis_agree_records (es : List Expr) (files : List File) :
    recordsApi es files = scanApi es files := apis_agree_batches 999 es files

/-- Statistics-based row-group skipping is sound on NaN-free columns. -/
theorem pushSkip_sound (xs : List V) (e : Expr) (hn : NoNan xs)
    (hp : pushSkip1 (rgStatsV xs) e = true) : ∀ x ∈ xs, evalSqlV e x ≠ Tri.t := by
  intro x hx
  cases hb : rgStatsV xs with
  | none | nanB => rw [hb] at hp; cases hp
  | range lo hi =>
    rw [hb] at hp
    cases x with
    | nan => exact absurd hx hn
    | null =>
      -- a NULL row is SQL-TRUE only under IS NULL, and under IS NULL no statistics ever skip
      intro h; simp [pushSkip1, evalSqlV_null h] at hp
    | val a => exact pushSkip1_val_sound (rgStatsV_range hb a hx).1 (rgStatsV_range hb a hx).2 e hp

/-- **pushdown_agrees_partial** — on tables without NaN in the filtered columns statistics pushdown
(row-group skipping) returns exactly what `scan` with verification returns. -/
theorem pushdown_agrees_partial (es : List Expr) (files : List File)
    (hs : ∀ e ∈ es, NoNanInSet e)
    (hn : ∀ f ∈ files, ∀ e ∈ es, NoNan (f.map (· e.col))) :
    pushdownApi es files = scanApi es files := by
  unfold pushdownApi scanApi
  congr 1
  apply List.map_congr_left
  intro f hf
  split
  · rename_i hany
    obtain ⟨e, he, hskip⟩ := List.any_eq_true.1 hany
    -- a skipped row group holds no row the filter keeps: condition `e` alone is SQL-TRUE on none of them
    refine (List.filter_eq_nil_iff.2 fun r hr hall => ?_).symm
    rw [keepsAll_eq_all, List.all_eq_true] at hall
    exact pushSkip_sound _ e (hn f hf e he) hskip (r e.col) (List.mem_map.2 ⟨r, hr, rfl⟩)
      ((build_is_sql e r (hs e he)).1 (hall e he))
  · rfl

/-- **apis_agree (verify_checksums=False)** — after fix c29e5f1 the unverified path is the same pipeline. -/
theorem apis_agree_nochecksum (es : List Expr) (files : List File) :
    nochecksumApi es files = scanApi es files := rfl

/-- The rejected design (what the code did before c29e5f1): pushdown into the parquet reader. -/
def PushdownAgrees : Prop := ∀ (es : List Expr) (files : List File), pushdownApi es files = scanApi es files

/-- **pushdown_agrees_refuted** (regression witness) — statistics pushdown ignores NaN: file `[1, NaN, 1]`, filter `x != 1` drops the NaN row that `scan` returns. -/
theorem pushdown_agrees_refuted : ¬ PushdownAgrees := by
  intro h
  have := h [{ col := 0, op := .ne, lit := .val 1, set := [] }]
            [[fun _ => .val 1, fun _ => .nan, fun _ => .val 1]]
  -- rows are functions, so the two lists cannot be compared by evaluation; their lengths (2 and 3) can
  have hl := congrArg List.length this
  revert hl
  decide

end DSV.Filter

namespace DSV.FilterParse
open DSV.Filter

/-- The specification table of operator spellings (what the documentation promises). -/
def specOps : List (String × String) := [
  ("!=", "NE"), ("<", "LT"), ("<=", "LE"), ("<>", "NE"), ("=", "EQ"), ("==", "EQ"), (">", "GT"), (">=", "GE"),
  ("eq", "EQ"), ("ge", "GE"), ("gt", "GT"), ("in", "IN"), ("le", "LE"), ("lt", "LT"), ("ne", "NE"),
  ("not in", "NOT_IN"), ("not_in", "NOT_IN"), ("notin", "NOT_IN")]

def specSpecial : List (String × String) := [
  ("between", "BETWEEN"), ("is_not_null", "IS_NOT_NULL"), ("is_null", "IS_NULL"),
  ("isnotnull", "IS_NOT_NULL"), ("isnull", "IS_NULL"), ("notnull", "IS_NOT_NULL")]

/-- **parse_table_correct** — the operator tables in the source (regenerated on every run) are exactly the
specification tables: every spelling denotes the operator the specification gives it, and there is no other. -/
theorem parse_table_correct :
    DSV.Generated.opTable = specOps ∧ DSV.Generated.specialSpellings = specSpecial := ⟨rfl, rfl⟩

/-- **parse_rejects (None)** — `{"c": None}` raises. -/
theorem compile_none_raises (col : Nat) : compile col .none = none := rfl

/-- **parse_rejects (operator not a string)**. -/
theorem compile_nonstr_raises (col : Nat) (v : PyVal) :
    compile col (.tuple2 .nonStr v) = none ∧ compile col (.tuple2 .unhashable v) = none := ⟨rfl, rfl⟩

/-- **parse_rejects (unknown operator)** — a spelling outside both tables is never coerced to some operator. -/
theorem compile_unknown_raises (col : Nat) (s : String) (v : PyVal)
    (h1 : specSpecial.lookup s.toLower = none) (h2 : specOps.lookup s.toLower = none) :
    compile col (.tuple2 (.str s) v) = none := by
  unfold compile compileWith
  rw [parse_table_correct.1, parse_table_correct.2]
  simp [h1, h2]

/-- **parse_rejects (wrong arity / non-iterable operand)** — comparison operators take a scalar, `in`/`not_in` a
sequence, `between` a sequence of exactly two; anything else raises. -/
theorem compile_shape (col : Nat) (s : String) (v : PyVal) (es : List Expr)
    (h : compile col (.tuple2 (.str s) v) = some es) :
    (∃ x, v = .scalar x ∧ ∃ op, isCmp op = true ∧ es = [mk col op x []]) ∨
    (∃ xs, v = .seq xs ∧ ∃ op, (op = .isIn ∨ op = .notIn) ∧ es = [mk col op .null xs]) ∨
    (∃ a b, v = .seq [a, b] ∧ es = [mk col .ge a [], mk col .le b []]) ∨
    es = [mk col .isNull .null []] ∨ es = [mk col .isNotNull .null []] := by
  unfold compile at h
  generalize hc : PyCond.tuple2 (.str s) v = c at h
  revert h
  fun_cases compileWith _ _ col c <;> cases hc
  -- the branches that return `some`, in the order of the definition: between, is_null, is_not_null, comparison, in / not_in
  case case5 => rintro ⟨⟩; exact .inr (.inr (.inl ⟨_, _, rfl, rfl⟩))
  case case7 => rintro ⟨⟩; exact .inr (.inr (.inr (.inl rfl)))
  case case8 => rintro ⟨⟩; exact .inr (.inr (.inr (.inr rfl)))
  case case11 op hcmp x _ _ _ => rintro ⟨⟩; exact .inl ⟨x, rfl, op, hcmp, rfl⟩
  case case13 op _ hin xs _ _ _ => rintro ⟨⟩; exact .inr (.inl ⟨xs, rfl, op, by simpa using hin, rfl⟩)
  all_goals nofun

/-- Non-vacuity: well-formed conditions do compile. -/
example : compile 0 (.tuple2 (.str "Not In") (.seq [.val 1, .null])) = some [mk 0 .notIn .null [.val 1, .null]] := by
  decide +kernel
example : compile 0 (.tuple2 (.str "between") (.seq [.val 1, .val 2])) = some [mk 0 .ge (.val 1) [], mk 0 .le (.val 2) []] := by
  decide +kernel
example : compile 0 (.tuple2 (.str "gte") (.scalar (.val 1))) = none := by decide +kernel

end DSV.FilterParse
