import DSV.Model.Skeleton
import DSV.Generated.Skeleton
import DSV.Proofs.Create
/-!
C18 — creating a table is idempotent and race-safe.
Model: `DSV/Model/Create.lean` (any number of creators / openers, every interleaving of their steps).
-/
namespace DSV.Create

/-- **identity_preserved** — for ANY initial storage content on which a table is resolvable (healthy; pointer lost but
metadata files present; a first version written but the pointer missing; stale or dangling pointer with files) and any
number of concurrent create / open calls, with or without a working lock, on either backend: nothing is initialised, no
file is written, the pointer is untouched, and every caller ends up on that very table. -/
theorem identity_preserved (cfg : Cfg) (files : List MFile) (hint : Option Nat) (creator : Nat → Bool) (t : MFile)
    (h0 : resolve (init files hint creator) = some t) (s : Sys) (hr : Reach cfg files hint creator s) :
    s.inits = [] ∧ resolve s = some t ∧ AllOn s t.uuid ∧ s.files = files ∧ s.hint = hint := by
  obtain ⟨hf, hh, hi, hres, hp⟩ := idInv_reach h0 hr
  refine ⟨hi, hres, fun a v hv => ?_, hf, hh⟩
  rcases hp a with h | h
  · cases h.symm.trans hv
  · cases h.symm.trans hv; rfl

/-- **one_init** — from an absent table, with a lock that excludes (local flock, or the S3 lock while its lease holds):
exactly at most one initialisation takes effect, at most one initial version is written, every caller that finished is
on that one table, and nobody finishes on a table while none is resolvable. -/
theorem one_init (cfg : Cfg) (hx : cfg.exclusive = true) (creator : Nat → Bool) (s : Sys)
    (hr : Reach cfg [] none creator s) :
    s.inits.length ≤ 1 ∧ s.files.length ≤ 1 ∧
    (∀ m, resolve s = some m → AllOn s m.uuid) ∧ (resolve s = none → ∀ a v, s.pc a ≠ .done (some v)) := by
  obtain ⟨_, hst, hp⟩ := exInv_reach hx hr
  have hdone : ∀ a v, s.pc a = .done (some v) → ∃ m, resolve s = some m ∧ v = m.uuid := fun a v hv => by
    have := hp a; rwa [hv] at this
  have hlen : s.inits.length ≤ 1 ∧ s.files.length ≤ 1 := by
    rcases hst with ⟨hf, _, hi⟩ | ⟨_, hf, _, hi⟩ | ⟨_, _, hf, _, hi⟩ <;> simp [hf, hi]
  refine ⟨hlen.1, hlen.2, fun m hm a v hv => ?_, fun hn a v hv => ?_⟩
  · obtain ⟨m', hm', rfl⟩ := hdone a v hv
    rw [hm] at hm'; cases hm'; rfl
  · obtain ⟨m, hm, _⟩ := hdone a v hv
    rw [hn] at hm; cases hm

/-- **one_init_cas** — on a CAS backend, even if the lock gives no exclusion at all, the create-if-absent pointer write
lets at most one initialisation take effect and the pointer is never replaced by another initialisation. -/
theorem one_init_cas (cfg : Cfg) (hc : cfg.cas = true) (creator : Nat → Bool) (s s' : Sys) (a : Nat) (act : Act)
    (hr : Reach cfg [] none creator s) (hs : step cfg s a act = some s') :
    s.inits.length ≤ 1 ∧ (s.inits.length = 1 ↔ s.hint.isSome) ∧ (s.hint.isSome → s'.hint = s.hint) := by
  have hlen : s.inits.length ≤ 1 ∧ (s.inits.length = 1 ↔ s.hint.isSome) := by
    rcases casInv_reach hc hr with ⟨hh, hi⟩ | ⟨h, w, hh, hi⟩ <;> simp [hi, hh]
  refine ⟨hlen.1, hlen.2, fun hsome => ?_⟩
  · rcases step_hint_cas hc hs with ⟨h1, _⟩ | ⟨h1, _⟩
    · exact h1
    · rw [h1] at hsome; cases hsome

/-- without exclusion AND without CAS two initialisations take effect (the assumption of `one_init` is needed) -/
theorem two_inits_without_exclusion_or_cas :
    (run ⟨false, false⟩ (init [] none fun _ => true)
      [(1, .open_), (2, .open_), (1, .acquire), (2, .acquire), (1, .check), (2, .check), (1, .writeV0), (2, .writeV0),
       (1, .flip), (2, .flip)]).map (fun s => s.inits) = some [2, 1] := by decide +kernel

/-- with CAS but no exclusion an OPENER can briefly see the loser's uncommitted initial version through the recovery
scan before the winner's pointer appears (the window the lock closes) -/
theorem opener_window_without_exclusion :
    (run ⟨true, false⟩ (init [] none fun a => a != 3)
      [(1, .open_), (2, .open_), (1, .acquire), (2, .acquire), (1, .check), (2, .check), (1, .writeV0), (2, .writeV0),
       (3, .open_), (1, .flip), (2, .flip), (2, .release), (1, .release)]).map
      (fun s => (s.pc 3, s.pc 1, s.pc 2, s.inits)) = some (.done (some 2), .done (some 1), .done (some 1), [1]) := by decide +kernel

/-- Non-vacuity of `identity_preserved`: pointer lost, two metadata versions on storage, three callers. -/
example : resolve (init [⟨0, 7, 0⟩, ⟨1, 7, 1⟩] none fun _ => true) = some ⟨1, 7, 1⟩ := by decide +kernel

end DSV.Create

/-! ## Tie to the current source: the step order of `MetadataManager.initialize_table` -/
namespace DSV.Src.C18
open DSV.Skel DSV.Generated.Skel

/-- **source_initialize_order** — in the CURRENT source: lock, existence check (refusing an existing table), initial
metadata file, create-if-absent pointer write on CAS backends (a lost race discards the file and refuses), plain pointer
write otherwise, release. -/
theorem source_initialize_order :
    project createVoc mmInitialize = ["acquire", "check", "exists", "writeMeta", "flipIfAbsent", "discard", "exists",
                                      "flip", "release"] := by decide +kernel

end DSV.Src.C18
