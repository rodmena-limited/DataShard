import DSV.Model.Skeleton
import DSV.Generated.Skeleton
import DSV.Model.Reader
import DSV.Proofs.Occ
/-!
C02 — readers observe only whole committed snapshots.
-/
namespace DSV.Reader

/-- **read_is_snapshot** — (repaired reader: one pointer read) for every timeline of committed versions and every pair of
instants `i ≤ j` inside the read's interval, the read returns exactly the rows of the version that was current at
instant `i` — a committed snapshot that was current between the read's start and its end — and never raises. -/
theorem read_is_snapshot (tl : List Ver) (hw : WfTimeline tl) (i j : Nat) (hi : i < tl.length) :
    ∃ v, tl[i]? = some v ∧ getAllDataFiles false tl i j = some (.rows v.rows) := by
  have hv : tl[i]? = some tl[i] := List.getElem?_eq_getElem hi
  refine ⟨tl[i], hv, ?_⟩
  unfold getAllDataFiles
  rw [hv]
  show (if tl[i].hasSnapshot = true then _ else _) = _
  cases hs : tl[i].hasSnapshot
  · rw [hw tl[i] (List.getElem_mem hi) hs]; rfl
  · rfl

/-- every read API (scan, parallel scan, batches, record iteration, row count: a function `post` of the rows found)
returns that function of ONE committed snapshot -/
theorem api_is_snapshot (post : List Nat → List Nat) (tl : List Ver) (hw : WfTimeline tl) (i j : Nat) (hi : i < tl.length) :
    ∃ v, tl[i]? = some v ∧ readApi post false tl i j = some (.rows (post v.rows)) := by
  obtain ⟨v, hv, hg⟩ := read_is_snapshot tl hw i j hi
  exact ⟨v, hv, by rw [readApi, hg]⟩

/-- Full statement for the reader as found. -/
def ReadIsSnapshot (doubleRefresh : Bool) : Prop :=
  ∀ (tl : List Ver), WfTimeline tl → ∀ i j, i ≤ j → j < tl.length →
    ∃ k v, i ≤ k ∧ k ≤ j ∧ tl[k]? = some v ∧ getAllDataFiles doubleRefresh tl i j = some (.rows v.rows)

/-- **read_is_snapshot_refuted** (regression witness; the code as found) — the reader refreshes twice: it sees the empty
version, a first append commits, the second refresh sees a set snapshot id and the read raises "inconsistent metadata"
although the table never was. -/
theorem read_is_snapshot_refuted : ¬ ReadIsSnapshot true := by
  intro h
  obtain ⟨k, v, _, _, _, hr⟩ :=
    h [⟨false, []⟩, ⟨true, [1]⟩] (by unfold WfTimeline; decide) 0 1 (Nat.zero_le _) (Nat.lt_succ_self _)
  -- the read evaluates to `raiseInconsistent`
  cases hr

theorem read_is_snapshot_fixed : ReadIsSnapshot false := by
  intro tl hw i j hij hj
  obtain ⟨v, hv, hg⟩ := read_is_snapshot tl hw i j (Nat.lt_of_le_of_lt hij hj)
  exact ⟨i, v, Nat.le_refl _, hij, hv, hg⟩

end DSV.Reader

namespace DSV.Occ

/-- the pointer's history only grows: what was flipped stays flipped, in the same order -/
theorem flips_grow (cfg : Cfg) (s s' : Sys) (a : Nat) (act : Act) (h : step cfg s a act = some s') :
    s.flips <:+ s'.flips := by
  rcases step_acks h with ⟨hf, _⟩ | ⟨_, f, _, hf, _⟩ <;> rw [hf]
  · exact List.suffix_refl _
  · exact List.suffix_cons _ _

/-- **monotone_reads** — successive pointer reads (through one handle or not) never move backwards in commit order:
the flips seen by an earlier read are a suffix (= an initial part, in commit order) of those seen by any later read. -/
theorem monotone_reads (cfg : Cfg) (sched : List (Nat × Act)) :
    ∀ s s', runSched cfg s sched = some s' → s.flips <:+ s'.flips := by
  intro s s'
  exact runSched_preserves (P := fun t => s.flips <:+ t.flips)
    (fun t a act t' ht hs => ht.trans (flips_grow cfg t t' a act hs)) sched s s' (List.suffix_refl _)

end DSV.Occ

/-! ## Tie to the current source: one pointer resolution per read -/
namespace DSV.Src.C02
open DSV.Skel DSV.Generated.Skel DSV.Reader

/-- **source_reads_pointer_once** — the CURRENT `Table._get_all_data_files` resolves the pointer exactly once (the model's
`doubleRefresh = false`; the code as found refreshed twice — `read_is_snapshot_refuted`). -/
theorem source_reads_pointer_once : twoRefreshesOf tblGetAllDataFiles = false := by decide +kernel

/-- **read_is_snapshot_source** — `read_is_snapshot_fixed` with the switch READ OFF the current source. -/
theorem read_is_snapshot_source : ReadIsSnapshot (twoRefreshesOf tblGetAllDataFiles) := by
  rw [source_reads_pointer_once]; exact read_is_snapshot_fixed

/-- **source_read_order** — metadata, then the manifest list, then manifests; a missing list or manifest raises. -/
theorem source_read_order :
    project [("metadata_manager.refresh", "meta"), ("file_manager.read_manifest_list_file", "list"),
             ("file_manager.read_manifest_file", "manifest"), ("raise:RuntimeError", "raise")] tblGetAllDataFiles
      = ["meta", "raise", "raise", "list", "raise", "manifest"] := by decide +kernel

end DSV.Src.C02
