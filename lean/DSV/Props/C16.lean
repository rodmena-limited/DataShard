import DSV.Proofs.SkelTx
import DSV.Proofs.Fs
/-!
C16 — commits are durable: the pointer never outruns the data it references.
Power-loss model: `DSV/Model/Fs.lean`.  The same executable `judge` is applied to the REAL syscall traces (strace) of
every operation by the check.
-/
namespace DSV.Fs

/-- **atomic_write_durable** — after the lowering of one `write_file` (temp, write, fsync, rename, directory fsync) the
target is durable: present after a power loss with its full content. -/
theorem atomic_write_durable (s : St) (t p d : Nat) (h : t ≠ p) (hd : (s p).dir = d) :
    Durable (run s (lowerWrite t p d)) p := lowerWrite_durable s t p d h hd

/-- durability of a path is not undone by events on other paths -/
theorem durable_stable (s : St) (p : Nat) (e : Ev) (hd : Durable s p) (hu : Untouched p e) : Durable (apply s e) p := by
  cases e with
  | fsync q =>
    by_cases hq : q = p
    · -- an fsync of `p` itself sets `contentDurable` to `written`, which is true
      subst hq
      obtain ⟨hpres, hwr, -, hent⟩ := hd
      simp [apply, Durable, hpres, hwr, hent]
    · exact SameUpToEntry.durable (foreign_apply s p _ hq) hd
  | _ => exact SameUpToEntry.durable (foreign_apply s p _ hu) hd

/-- **lower_atomic** — within the lowering of one write the target changes only at the rename. -/
theorem lower_atomic (s : St) (t p d : Nat) (h : t ≠ p) (k : Nat) (hk : k ≤ 3) :
    run s ((lowerWrite t p d).take k) p = s p := lowerWrite_before_rename s t p d h k hk

/-- the judge means what it says: `none` = at every prefix at or after the first rename onto the pointer, every path in
`reach` is durable -/
theorem judge_sound (hint : Nat) (reach : List Nat) (s : St) (evs : List Ev) (h : judge hint reach s evs = none) :
    ∀ k, k ≤ evs.length → (∃ j, j < k ∧ ∃ src, evs[j]? = some (.rename src hint)) →
      ∀ p ∈ reach, Durable (run s (evs.take k)) p := by
  intro k hk ⟨j, hj, src, hsrc⟩
  cases k with
  | zero => exact absurd hj (Nat.not_lt_zero j)
  | succ k =>
    refine judge_go_sound h hk (List.any_eq_true.2 ⟨.rename src hint, ?_, beq_self_eq_true hint⟩)
    exact List.mem_of_getElem? ((List.getElem?_take_of_lt hj).trans hsrc)

/-- **commit_durable** — for ANY number of files written by a commit (data files, manifests, manifest list, metadata file),
each through the atomic-write lowering and all before the pointer: at every prefix of the syscall trace at or after the
pointer's rename — from that instant the kernel may persist the new pointer at will, and in particular after the commit was
acknowledged — every referenced file is durable with its full content and its directory entry persisted. -/
theorem commit_durable (files : List W) (hint : W) (s : St) (hwf : WfCommit files hint s) :
    judge hint.fin (files.map (·.fin)) s (commitTrace files hint) = none := by
  -- the files' lowerings contain no flip; after them every file is durable and the pointer's lowering names none of them
  refine judge_go_no_flip_append
    (List.forall_mem_flatMap.2 fun w hw => lowerWrite_no_flip w.tmp w.fin w.dir hint.fin (hwf.fin_pairwise.2 w hw))
    fun _ => judge_go_foreign (List.forall_mem_map.2 hwf.files_durable)
      fun e he => List.forall_mem_map.2 fun w hw => hwf.pointer_foreign w hw e he

/-! what goes wrong without each step (the judge is not vacuous) -/
def s0 : St := fun p => absent (if p = 9 then 0 else 1)     -- path 9 (the pointer) lives in dir 0, everything else in dir 1

example : judge 9 [1] s0 (commitTrace [⟨11, 1, 1⟩] ⟨19, 9, 0⟩) = none := by decide +kernel
/-- no fsync of the file before its rename -/
example : judge 9 [1] s0 ([.creat 11 1, .write 11, .rename 11 1, .fsyncDir 1] ++ lowerWrite 19 9 0) = some 7 := by decide +kernel
/-- no directory fsync after the rename -/
example : judge 9 [1] s0 ([.creat 11 1, .write 11, .fsync 11, .rename 11 1] ++ lowerWrite 19 9 0) = some 7 := by decide +kernel
/-- pointer flipped before the data file is written -/
example : judge 9 [1] s0 (lowerWrite 19 9 0 ++ lowerWrite 11 1 1) = some 3 := by decide +kernel

theorem judge_go_no_flip (hint : Nat) (reach : List Nat) (evs : List Ev) (h : ∀ e ∈ evs, flipsTo hint e = false) :
    ∀ (s : St) (i : Nat), judge.go hint reach s false i evs = none := by
  intro s i
  have h' : judge.go hint reach s false i (evs ++ []) = none := judge_go_no_flip_append h fun _ => rfl
  rwa [List.append_nil] at h'

/-- **fsync_failure_no_flip** — when the fsync of any referenced file fails, the commit's trace contains no rename onto the
pointer (for every number of files and every failing position), so the judge has nothing to object to at any prefix: the
pointer never advances over a file whose flush failed. (Pointer path distinct from every referenced file's final path.) -/
theorem fsync_failure_no_flip (files : List W) (k : Nat) (hint : Nat) (hd : ∀ w ∈ files, w.fin ≠ hint) :
    (∀ e ∈ commitTraceFail files k, flipsTo hint e = false) ∧
    ∀ (reach : List Nat) (s0 : St), judge hint reach s0 (commitTraceFail files k) = none := by
  have h1 : ∀ e ∈ commitTraceFail files k, flipsTo hint e = false := by
    refine List.forall_mem_append.2 ⟨List.forall_mem_flatMap.2 fun w hw =>
      lowerWrite_no_flip w.tmp w.fin w.dir hint (hd w (List.mem_of_mem_take hw)), ?_⟩
    -- the failing write has no rename at all
    cases files[k]? with
    | none => exact fun _ h => nomatch h
    | some w =>
      simp only [lowerWriteFail, List.mem_cons, List.mem_nil_iff, or_false]
      rintro e (rfl | rfl | rfl) <;> rfl
  exact ⟨h1, fun reach s0 => judge_go_no_flip hint reach _ h1 s0 0⟩

example : commitTraceFail [⟨10, 1, 0⟩, ⟨11, 2, 0⟩] 1 = [.creat 10 0, .write 10, .fsync 10, .rename 10 1, .fsyncDir 0, .creat 11 0, .write 11, .unlink 11] := by
  decide +kernel

end DSV.Fs

/-! ## Tie to the current source: the syscall order of the two atomic writers -/
namespace DSV.Src.C16
open DSV.Skel DSV.Generated.Skel DSV.Fs

/-- the file-system calls of the CURRENT `LocalStorageBackend.write_file`, success path then failure handler -/
theorem fs_localWriteFile : project fsVoc localWriteFile =
    ["creat", "write", "fsync", "rename", "open", "fsync", "handler", "unlink", "handler"] := by decide +kernel

/-- the file-system calls of the CURRENT `DataFileWriter.close`, success path then failure handler -/
theorem fs_dataWriterClose : project fsVoc dataWriterClose =
    ["write", "open", "fsync", "rename", "open", "fsync", "handler", "unlink", "handler"] := by decide +kernel

/-- **source_write_file_is_lowerWrite** — the success path of the CURRENT `LocalStorageBackend.write_file` is the model's
`lowerWrite`: create temp, write, fsync(file), rename, fsync(directory). -/
theorem source_write_file_is_lowerWrite (t p d : Nat) :
    lowerOf false (mainPath (project fsVoc localWriteFile)) = (lowerWrite t p d).map evTag := by
  rw [fs_localWriteFile]; simp only [lowerWrite, List.map, evTag]; decide +kernel

/-- **source_data_writer_is_lowerWrite** — the success path of the CURRENT `DataFileWriter.close` is `lowerWrite` without its
first event (the temp file was created when the writer was opened): finish writing, fsync(file), rename, fsync(directory). -/
theorem source_data_writer_is_lowerWrite (t p d : Nat) :
    lowerOf false (mainPath (project fsVoc dataWriterClose)) = ((lowerWrite t p d).map evTag).tail := by
  rw [fs_dataWriterClose]; simp only [lowerWrite, List.map, evTag]; decide +kernel

/-- **source_failure_path_unlinks_temp** — the failure handler of both writers only removes the temp file (inside a catch-all of its own) and re-raises. -/
theorem source_failure_path_unlinks_temp :
    ((project fsVoc localWriteFile).dropWhile (· != "handler")) = ["handler", "unlink", "handler"] ∧
    ((project fsVoc dataWriterClose).dropWhile (· != "handler")) = ["handler", "unlink", "handler"] := by
  rw [fs_localWriteFile, fs_dataWriterClose]; decide +kernel

/-- **source_prebuilt_persisted_before_queue** — a pre-built file is made durable before it can be queued for a commit. -/
theorem source_prebuilt_persisted_before_queue :
    allBefore "persist" "queue" (project txVoc txAppendFiles) = true := by
  rw [txAppendFiles_steps]; decide +kernel

/-- **source_files_before_pointer** — `_commit_file_ops` writes manifests and the manifest list before the call that
advances the pointer, and validates the data files before the manifest that adds them. -/
theorem source_files_before_pointer :
    project fileOpsVoc txCommitFileOps = ["manifest", "validate", "manifest", "manifestList", "commit"] := by
  decide +kernel

end DSV.Src.C16
