import DSV.Proofs.FsCrash
/-!
C03 — a crash at any point leaves the table in the pre- or post-operation state.
Process death = any prefix of the operation's syscall trace (page cache intact).  Model: `DSV/Model/Fs.lean`.
-/
namespace DSV.Fs

/-- **crash_pre** — for a commit writing ANY number of files, at every prefix of its syscall trace that does not contain the
pointer's rename the pointer path is what it was — present, content, content-durability and directory unchanged (a directory
fsync may only make its old entry MORE durable): the table is in the pre-state. -/
theorem crash_pre (files : List W) (hint : W) (s : St) (hwf : WfCommit files hint s) (k : Nat)
    (hk : k ≤ 5 * files.length + 3) :
    SameUpToEntry (run s ((commitTrace files hint).take k) hint.fin) (s hint.fin) :=
  pointer_before_rename files hint s hwf k hk

/-- the literal "nothing at all changed" is false (regression of a too-strong statement kept honest): a file's directory
fsync persists the OLD pointer entry when they share a directory.  Witness: one file and the pointer in the same directory
0, the old pointer visible but its entry not yet durable; the file's `fsyncDir 0` (5th event, 5 ≤ 5*1+3) makes the OLD
pointer entry durable, so `entryDurable` flips false → true. -/
theorem crash_pre_full_equality_refuted :
    ¬ (∀ files hint s, WfCommit files hint s → ∀ k, k ≤ 5 * files.length + 3 →
        run s ((commitTrace files hint).take k) hint.fin = s hint.fin) := by
  intro h
  have := h [⟨11, 1, 0⟩] ⟨19, 9, 0⟩ (fun p => ⟨p == 9, p == 9, false, false, 0⟩)
    ⟨by decide, by decide, by decide, by decide⟩ 5 (by decide)
  revert this
  decide +kernel

/-- **crash_foreign_untouched** — at every prefix, every path the commit does not own (all files of all earlier snapshots,
other transactions' files) is as visible as before: the pre-state stays fully readable, and so does everything older in
the post-state. -/
theorem crash_foreign_untouched (files : List W) (hint : W) (s : St) (k : Nat) (p : Nat) (hp : p ∉ commitIds files hint) :
    (run s ((commitTrace files hint).take k) p).present = (s p).present ∧
    (run s ((commitTrace files hint).take k) p).written = (s p).written := by
  obtain ⟨hpres, hwr, -⟩ := commitTrace_foreign files hint s k p hp
  exact ⟨hpres, hwr⟩

/-- **crash_post** — at every prefix from the pointer's rename on, every file the new version references is there with its
full content: the post-state is fully readable. Together: pre or post, post only once the pointer was advanced. -/
theorem crash_post (files : List W) (hint : W) (s : St) (hwf : WfCommit files hint s) (k : Nat)
    (hk : 5 * files.length + 4 ≤ k) : ∀ w ∈ files ++ [hint], Visible (run s ((commitTrace files hint).take k)) w.fin := by
  intro w hw
  -- the prefix holds all of the files' lowerings: their length is `5 * files.length ≤ 5 * files.length + 4 ≤ k`
  have hlen : _ ≤ k := Nat.le_trans (Nat.le_of_eq (length_flatMap_lowerWrite files)) (Nat.le_trans (Nat.le_add_right _ 4) hk)
  rw [commitTrace_take, List.take_of_length_le hlen, run_append]
  rcases List.mem_append.1 hw with hw | hw
  · -- a referenced file: durable after the files' lowerings, and the pointer's lowering is foreign to it
    exact ((run_take_foreign w.fin _ _ _ (hwf.pointer_foreign w hw)).durable (hwf.files_durable w hw)).visible
  · rw [List.mem_singleton.1 hw]
    exact lowerWrite_visible _ hint.tmp hint.fin hint.dir hwf.pointer_tmp_ne _ (Nat.le_sub_of_add_le' hk)

/-- within one atomic write the target changes only at the rename (the same fact as `lower_atomic` of C16) -/
theorem crash_lower_atomic (s : St) (t p d : Nat) (h : t ≠ p) (k : Nat) (hk : k ≤ 3) :
    run s ((lowerWrite t p d).take k) p = s p := lowerWrite_before_rename s t p d h k hk

example : Visible (run (fun p => absent (if p = 9 then 0 else 1)) ((commitTrace [⟨11, 1, 1⟩] ⟨19, 9, 0⟩).take 9)) 1 := by
  unfold Visible; decide +kernel

end DSV.Fs
