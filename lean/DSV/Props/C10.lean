import DSV.Model.Skeleton
import DSV.Generated.Skeleton
import DSV.Model.Hint
/-!
C10 — the version pointer is only a hint.
-/
namespace DSV.Hint

/-- Full statement: whatever the bytes of the pointer file, parsing never lets an exception escape. -/
def ParseTotal (guardInt : Bool) : Prop := ∀ c, parseHintWith guardInt c ≠ Res.raise

/-- **parse_total_refuted** (regression witness) — the code as found: a character that `str.isdigit()` accepts but `int()` rejects
(e.g. U+00B2) reaches `int()` unguarded and the ValueError escapes `refresh()`. -/
theorem parse_total_refuted : ¬ ParseTotal false := by
  intro h
  exact h (some [.dx]) (by decide)

theorem strip_sublist (t : List Cp) : (strip t).Sublist t :=
  (List.reverse_sublist.2 (List.dropWhile_sublist _)).trans
    (List.reverse_reverse _ ▸ List.dropWhile_sublist _)

theorem pyInt_decimal {ds : List Cp} (hd : ds.all isDecimalChar = true) (hl : ds.length ≤ maxStrDigits) :
    pyInt ds = some (decimalValue ds) := by
  simp [pyInt, hd, hl]

theorem matchMetaName_some {t ds : List Cp} : matchMetaName t = some ds →
    ds.all isDecimalChar = true ∧ ds.length ≤ t.length := by
  fun_cases matchMetaName t
  -- the accepting branches (case2 the plain name, case3 the name with a uuid part) both return `rest.takeWhile isDecimalChar`
  case case2 | case3 =>
    intro h
    exact Option.some.inj h ▸ ⟨List.all_takeWhile, Nat.le_succ_of_le (List.takeWhile_sublist _).length_le⟩
  all_goals nofun

/-- the parser raises only from an unguarded `int()` on text that passed `isdigit()` or the file-name pattern -/
theorem parseHintWith_raise {g : Bool} {c : Option (List Cp)} : parseHintWith g c = .raise →
    g = false ∧ ∃ raw ds, c = some raw ∧ pyInt ds = none ∧
      ((ds = strip raw ∧ ds.all isDigitChar = true) ∨ matchMetaName (strip raw) = some ds) := by
  fun_cases parseHintWith g c
  -- the two branches that end in `.raise`: all-digits text, digit group of a file name
  case case5 raw _ _ hall hp hg => exact fun _ => ⟨Bool.eq_false_iff.2 hg, raw, _, rfl, hp, .inl ⟨rfl, hall⟩⟩
  case case8 raw _ _ _ ds hm hp hg => exact fun _ => ⟨Bool.eq_false_iff.2 hg, raw, ds, rfl, hp, .inr hm⟩
  all_goals nofun

/-- **parse_total** (full strength, after fix 88f5723) — no pointer content makes the parser raise. -/
theorem parse_total : ParseTotal true := fun _ h => nomatch (parseHintWith_raise h).1

/-- **parse_total_partial** — even unguarded, contents made of ASCII / decimal digits within the int-conversion
limit (and everything that is not all-digits and not a metadata file name) never raise. -/
theorem parse_total_partial (raw : List Cp) (h : ∀ c ∈ raw, c ≠ Cp.dx) (hl : raw.length ≤ maxStrDigits) :
    parseHintWith false (some raw) ≠ Res.raise := by
  intro hr
  obtain ⟨_, raw', ds, hc, hp, hds⟩ := parseHintWith_raise hr
  cases hc
  have hlen := (strip_sublist raw).length_le
  -- either way `ds` consists of decimal digits and is no longer than `raw`, so `int()` accepts it
  have : ds.all isDecimalChar = true ∧ ds.length ≤ (strip raw).length := by
    rcases hds with ⟨rfl, hall⟩ | hm
    · refine ⟨List.all_eq_true.2 fun c hc => ?_, Nat.le_refl _⟩
      have h1 := List.all_eq_true.1 hall c hc
      have h2 := h c ((strip_sublist raw).subset hc)
      cases c
      case dx => exact absurd rfl h2
      case ad | ud => rfl
      all_goals cases h1
    · exact matchMetaName_some hm
  rw [pyInt_decimal this.1 (by omega)] at hp
  cases hp

/-- Non-vacuity of the partial theorem and behaviour on the documented forms. -/
def sampleName : List Cp :=
  [.ch 'v', .ad 3, .ch '-', .ad 1, .ch 'a', .ad 2, .ch 'b', .ad 3, .ch 'c', .ad 4, .ch 'd'] ++ lit ".metadata.json"
example : parseHintWith false (some (sampleName ++ [.ws])) = .ok (3, sampleName) := by decide +kernel
example : parseHintWith false (some [.ws, .ad 1, .ad 2, .ws]) = .ok (12, lit "v" ++ [.ad 1, .ad 2] ++ lit ".metadata.json") := by
  decide +kernel
example : parseHintWith true (some [.dx]) = .none := by decide
example : parseHintWith false (some ([.ch 'v', .ad 3, .ch '-', .ad 1, .ch 'A', .ad 2, .ch 'b', .ad 3, .ch 'c', .ad 4, .ch 'd']
    ++ lit ".metadata.json")) = .none := by decide +kernel

/-- one step of the recovery loop: an entry without a version is skipped; an entry with a version is taken if it is at
least the best so far (higher version, or the same version and strictly newer), else the best so far is kept -/
theorem recoverStep_cases (best : Option (Nat × Nat × Int)) (e : Entry) :
    (e.version = none ∧ recoverStep best e = best) ∨
    ∃ ev, e.version = some ev ∧
      ((recoverStep best e = some (ev, e.name, mt e) ∧
          ∀ bv bn bm, best = some (bv, bn, bm) → bv ≤ ev ∧ (bv = ev → bm ≤ mt e)) ∨
       ∃ bv bn bm, best = some (bv, bn, bm) ∧ recoverStep best e = best ∧ ev ≤ bv ∧ (ev = bv → mt e ≤ bm)) := by
  -- the branches of `recoverStep` in order: no version; nothing found yet; higher version; same version and newer; same version,
  -- not newer; lower version
  fun_cases recoverStep best e
  case case1 hv => exact .inl ⟨hv, rfl⟩
  case case2 ev hv => exact .inr ⟨ev, hv, .inl ⟨rfl, nofun⟩⟩
  case case3 ev hv bv bn bm h => exact .inr ⟨ev, hv, .inl ⟨rfl, by rintro _ _ _ ⟨⟩; omega⟩⟩
  case case4 ev hv bv bn bm _ h _ =>
    exact .inr ⟨ev, hv, .inl ⟨rfl, by rintro _ _ _ ⟨⟩; rw [beq_iff_eq] at h; omega⟩⟩
  case case5 ev hv bv bn bm _ h _ => exact .inr ⟨ev, hv, .inr ⟨_, _, _, rfl, rfl, by rw [beq_iff_eq] at h; omega⟩⟩
  case case6 ev hv bv bn bm _ h => exact .inr ⟨ev, hv, .inr ⟨_, _, _, rfl, rfl, by rw [beq_iff_eq] at h; omega⟩⟩

/-- the invariant of the recovery fold: `best` is an entry of `seen` with the highest version and, among those of that version,
the greatest `mt`; it is `none` only as long as nothing in `seen` has a version -/
theorem recoverStep_inv (es : List Entry) :
    ∀ (best : Option (Nat × Nat × Int)) (seen : List Entry),
      (∀ v n m, best = some (v, n, m) → (∃ e ∈ seen, e.version = some v ∧ e.name = n ∧ mt e = m) ∧
          (∀ e ∈ seen, ∀ v', e.version = some v' → v' ≤ v) ∧
          (∀ e ∈ seen, e.version = some v → mt e ≤ m)) →
      (best = none → ∀ e ∈ seen, e.version = none) →
      (∀ v n m, es.foldl recoverStep best = some (v, n, m) →
          (∃ e ∈ seen ++ es, e.version = some v ∧ e.name = n ∧ mt e = m) ∧
          (∀ e ∈ seen ++ es, ∀ v', e.version = some v' → v' ≤ v) ∧
          (∀ e ∈ seen ++ es, e.version = some v → mt e ≤ m)) ∧
      (es.foldl recoverStep best = none → ∀ e ∈ seen ++ es, e.version = none) := by
  induction es with
  | nil => intro best seen h1 h2; rw [List.append_nil]; exact ⟨h1, h2⟩
  | cons e rest ih =>
    intro best seen h1 h2
    rw [List.foldl_cons, List.append_cons]
    have app : ∀ {P : Entry → Prop}, (∀ y ∈ seen, P y) → P e → ∀ y ∈ seen ++ [e], P y :=
      fun hs he => List.forall_mem_append.2 ⟨hs, List.forall_mem_singleton.2 he⟩
    have old : ∀ {x}, x ∈ seen → x ∈ seen ++ [e] := List.mem_append_left _
    -- `e` is skipped, taken or kept; in each case the two hypotheses again, for `recoverStep best e` and `seen ++ [e]`
    rcases recoverStep_cases best e with ⟨hv, hs⟩ | ⟨ev, hv, ⟨hs, hle⟩ | ⟨bv, bn, bm, rfl, hs, hle⟩⟩ <;> rw [hs] <;>
      apply ih
    · -- skipped
      intro v n m hb
      obtain ⟨⟨x, hx, hx2⟩, hmax, hmt⟩ := h1 v n m hb
      exact ⟨⟨x, old hx, hx2⟩, app hmax (by simp [hv]), app hmt (by simp [hv])⟩
    · exact fun hb => app (h2 hb) hv
    · -- taken
      intro v n m hb
      cases hb
      -- every earlier entry is below the best so far, which is below `e`
      have hold : ∀ y ∈ seen, ∀ v', y.version = some v' → v' ≤ ev ∧ (v' = ev → mt y ≤ mt e) := by
        intro y hy v' hy'
        rcases best with _ | ⟨bv, bn, bm⟩
        · cases (h2 rfl y hy).symm.trans hy'
        · obtain ⟨_, hmax, hmt⟩ := h1 bv bn bm rfl
          have := hle bv bn bm rfl
          have := hmax y hy _ hy'
          refine ⟨by omega, fun h => ?_⟩
          have := hmt y hy ((show bv = v' by omega) ▸ hy'); omega
      exact ⟨⟨e, List.mem_concat_self, hv, rfl, rfl⟩, app (fun y hy v' hy' => (hold y hy v' hy').1) (by simp [hv]),
        app (fun y hy hy' => (hold y hy _ hy').2 rfl) fun _ => Int.le_refl _⟩
    · exact fun hb => nomatch hb
    · -- kept
      intro v n m hb
      cases hb
      obtain ⟨⟨x, hx, hx2⟩, hmax, hmt⟩ := h1 _ _ _ rfl
      exact ⟨⟨x, old hx, hx2⟩, app hmax (by simp [hv]; omega), app hmt (by simp [hv]; omega)⟩
    · exact fun hb => nomatch hb

/-- **recover_highest_newest** — scanning picks an existing metadata file with the highest version, and among
files of that version one with the greatest modification time; it finds one whenever any file matches. -/
theorem recover_highest_newest (es : List Entry) :
    (∀ v n, recover (some es) = some (v, n) →
        (∃ e ∈ es, e.version = some v ∧ e.name = n ∧
          (∀ e' ∈ es, ∀ v', e'.version = some v' → v' ≤ v) ∧
          (∀ e' ∈ es, e'.version = some v → mt e' ≤ mt e))) ∧
    (recover (some es) = none → ∀ e ∈ es, e.version = none) := by
  have h := recoverStep_inv es none [] (fun _ _ _ h => nomatch h) (fun _ _ he => nomatch he)
  refine ⟨fun v n hr => ?_, fun hr => h.2 (by simpa [recover] using hr)⟩
  simp only [recover, Option.map_eq_some_iff] at hr
  obtain ⟨⟨v', n', m⟩, hf, heq⟩ := hr
  cases heq
  obtain ⟨⟨e, he, h1, h2, h3⟩, hmax, hmt⟩ := h.1 _ _ m hf
  exact ⟨e, he, h1, h2, hmax, fun e' he' hv' => h3 ▸ hmt e' he' hv'⟩

/-- **open_resolves_latest_partial** — if the latest committed version `L` (file `n`) is on storage, no other
metadata file carries a version ≥ `L`, and the pointer is missing / unparseable / dangling / names `L`,
then opening resolves to `L`. -/
theorem open_resolves_latest_partial (es : List Entry) (L n : Nat) (m : Option Nat)
    (hL : (⟨n, some L, m⟩ : Entry) ∈ es)
    (hmax : ∀ e ∈ es, ∀ v, e.version = some v → v ≤ L)
    (huniq : ∀ e ∈ es, e.version = some L → e.name = n)
    (hint : Res (Nat × Nat)) (ex : Bool)
    (hh : hint = .none ∨ (∃ v x, hint = .ok (v, x) ∧ ex = false) ∨ (hint = .ok (L, n) ∧ ex = true)) :
    currentVersionInfo hint ex (some es) = .ok (L, n) := by
  have hrec : recover (some es) = some (L, n) := by
    have h := recover_highest_newest es
    cases hr : recover (some es) with
    | none => exact nomatch h.2 hr _ hL
    | some r =>
      obtain ⟨v, x⟩ := r
      obtain ⟨e, he, hv, hn, hmx, _⟩ := h.1 v x hr
      obtain rfl : v = L := Nat.le_antisymm (hmax e he v hv) (hmx _ hL L rfl)
      rw [← hn, huniq e he hv]
  rcases hh with rfl | ⟨v, x, rfl, rfl⟩ | ⟨rfl, rfl⟩ <;> simp [currentVersionInfo, currentVersionInfoWith, scan, hrec]

/-- Full statement of "opening resolves to the latest committed version" over pointer contents and leftovers. -/
def OpenResolvesLatest : Prop :=
  ∀ (es : List Entry) (L n : Nat) (m : Option Nat), (⟨n, some L, m⟩ : Entry) ∈ es →
    ∀ (hint : Res (Nat × Nat)) (ex : Bool), hint ≠ .raise → currentVersionInfo hint ex (some es) = .ok (L, n)

/-- **open_resolves_latest_refuted** — two ways the unrestricted statement fails: (a) pointer lost while an
uncommitted file of a higher version (left by a failed commit) is on storage: the scan surfaces it;
(b) a stale pointer naming an existing older version is believed. -/
theorem open_resolves_latest_refuted : ¬ OpenResolvesLatest := by
  intro h
  have := h [⟨0, some 3, some 10⟩, ⟨1, some 4, some 11⟩] 3 0 (some 10) (by simp) .none false (by simp)
  revert this
  decide

theorem stale_pointer_believed :
    currentVersionInfo (.ok (2, 7)) true (some [⟨7, some 2, some 5⟩, ⟨0, some 3, some 10⟩]) = .ok (2, 7) := by decide

/-- **never_reinit** (full strength, after fix be2333b) — `_current_version_info()` answers "no table" only when
the metadata listing SUCCEEDED and contains no metadata version at all; in every other case (a recoverable version,
a failing listing, a raising parser) `initialize_table` refuses or an error escapes — it never re-initialises. -/
theorem never_reinit (listing : Option (List Entry)) (hint : Res (Nat × Nat)) (ex : Bool)
    (h : currentVersionInfo hint ex listing = .none) :
    ∃ es, listing = some es ∧ ∀ e ∈ es, e.version = none := by
  have key : scan false listing = .none → ∃ es, listing = some es ∧ ∀ e ∈ es, e.version = none := by
    fun_cases scan false listing
    -- case1 is the branch that swallows a failing listing, switched off here; case4 a listing in which `recover` finds nothing
    case case1 hsw => cases hsw
    case case4 es hr => exact fun _ => ⟨es, rfl, (recover_highest_newest es).2 hr⟩
    all_goals nofun
  -- the branches that do not return the scan's answer return `.raise` or `.ok`
  unfold currentVersionInfo at h
  revert h
  fun_cases currentVersionInfoWith false hint ex listing
  case case3 | case4 => exact key
  all_goals nofun

/-- **never_reinit_refuted** (regression witness) — with the listing error swallowed (code as found), pointer lost +
scan failing reads as "no table" although one exists, and initialisation proceeds. -/
theorem never_reinit_refuted : currentVersionInfoWith true .none false none = .none := by decide

end DSV.Hint

namespace DSV.Src.C10
open DSV.Skel DSV.Generated.Skel

/-- **source_pointer_then_scan** — the CURRENT `_current_version_info` reads the pointer first, checks that the file it names
exists, and falls back to the recovery scan only then; `refresh` resolves the version through it ONCE and reads one metadata
file. -/
theorem source_pointer_then_scan :
    project [("_read_version_hint", "hint"), ("storage.exists", "exists"), ("_recover_version_from_files", "scan")] mmCurrentVersionInfo
      = ["hint", "exists", "scan"] ∧
    project [("_current_version_info", "resolve"), ("_read_metadata_file", "read"), ("_read_version_hint", "hint"),
             ("_recover_version_from_files", "scan")] mmRefresh = ["resolve", "read"] := by decide +kernel

end DSV.Src.C10
