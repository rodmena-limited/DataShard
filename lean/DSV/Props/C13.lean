import DSV.Proofs.Filter
import DSV.Model.Codec
/-!
C13 — file pruning never changes a query's answer.
-/
namespace DSV.Filter

/-- **prune_sound** (full strength, after fix 6a270b4) — for every column content (NULLs and NaN included),
every operator and every literal / value set, a file skipped by its computed bounds contains no row on which
the predicate is SQL-TRUE. -/
theorem prune_sound (xs : List V) (e : Expr)
    (hp : mayMatch1 (bounds xs) e = false) : ∀ x ∈ xs, evalSqlV e x ≠ Tri.t := by
  intro x hx
  cases hb : bounds xs with
  | none => rw [hb] at hp; cases hp
  | nanB => exact absurd hb (bounds_ne_nanB xs)
  | range lo hi =>
    obtain ⟨hn, hr⟩ := bounds_range hb
    rw [hb] at hp
    cases x with
    | nan => exact absurd hx hn
    | null =>
      -- a NULL row is SQL-TRUE only under IS NULL, and under IS NULL no bounds ever prune
      intro h; simp [mayMatch1, evalSqlV_null h] at hp
    | val a =>
      obtain ⟨h1, h2⟩ := hr a hx
      by_cases hin : e.op = .isIn
      · -- no element of the value set lies in `[lo, hi]`, and `a` does
        simp only [mayMatch1, hin, Bool.or_eq_false_iff, List.any_eq_false] at hp
        have : memSql (V.val a) (dropNull e.set) = false := by
          refine List.any_eq_false.2 fun s hs => ?_
          have h3 := hp.2 s (mem_dropNull.mp hs).1
          cases s with
          | null => exact absurd rfl h3   -- a NULL element would have kept the file
          | nan => nofun                  -- NaN equals nothing
          | val v => simp [inRangeOrNull, eqSql] at h3 ⊢; omega
        simp [evalSqlV, hin, Tri.ofBool, this]
      · by_cases hnot : e.op = .notIn
        · simp [mayMatch1, hnot] at hp
        · -- the comparison operators: the bounds test is the row-group test
          rw [mayMatch1_range lo hi e hin hnot, Bool.not_eq_false'] at hp
          exact pushSkip1_val_sound h1 h2 e hp

/-- Regression witness of the repaired defect: with bounds computed over the non-NaN values only
(the pre-fix behaviour, `[1,1]` for the column `[1, NaN]`), `x != 1` prunes a file whose NaN row matches. -/
theorem prefix_bounds_unsound :
    mayMatch1 (.range 1 1) { col := 0, op := .ne, lit := .val 1, set := [] } = false ∧
    evalSqlV { col := 0, op := .ne, lit := .val 1, set := [] } .nan = Tri.t := by decide

/-- Non-vacuity: files that ARE pruned (so the implication is exercised), one of them holding NULLs. -/
example : mayMatch1 (bounds [.val 1, .null, .val 3]) { col := 0, op := .gt, lit := .val 3, set := [] } = false := by
  decide
example : bounds [.val 1, .nan] = .none := by decide

/-- Lazy `any(...)` (order-sensitive in Python because of the TypeError on NULL) equals the
order-insensitive formulation used in `mayMatch1`. -/
theorem inWalk_eq (lo hi : Int) (vs : List V) :
    inWalk lo hi vs = vs.any (inRangeOrNull lo hi) := by
  induction vs with
  | nil => rfl
  | cons s rest ih =>
    cases s with
    | null => simp [inWalk, inRangeOrNull]
    | nan => simp [inWalk, ih, inRangeOrNull]
    | val v =>
      simp only [inWalk, List.any_cons, ih, inRangeOrNull]
      cases decide (lo ≤ v) && decide (v ≤ hi) <;> rfl

end DSV.Filter

namespace DSV.Codec

/-- the two `isinstance` chains are inverse on the tag, except that an unsupported class comes back as `str` -/
theorem decode_encode (v : PyVal) : decode (encode v) = ⟨if v.cls = .other then .str else v.cls, v.payload⟩ := by
  obtain ⟨c, p⟩ := v
  cases c <;> simp [encode, decode, isInstance]

/-- **codec_roundtrip** — every bound value of a supported class survives the manifest round trip with its
class (type) and payload intact; in particular `bool` does not come back as `int` and `datetime` not as `date`. -/
theorem codec_roundtrip (v : PyVal) (h : v.cls ≠ Cls.other) : decode (encode v) = v := by
  rw [decode_encode, if_neg h]

/-- Values of unsupported classes degrade to their `str()` — type is NOT preserved (outside the property's list). -/
theorem codec_other_degrades (p : String) : decode (encode ⟨.other, p⟩) = ⟨.str, p⟩ := decode_encode _

example : decode (encode ⟨.bool, "True"⟩) = ⟨.bool, "True"⟩ := by decide

end DSV.Codec
