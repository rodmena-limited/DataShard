import DSV.Model.Skeleton
import DSV.Generated.Skeleton
import DSV.Proofs.Occ
/-!
C08 — a stale lock holder or delayed pointer write cannot lose an update on S3.
Same transition system as C01 with `cas := true`; the lock is `exclusive := false` — a lock granting everyone, i.e.
"no exclusion at all" — which subsumes paused holders, lapsed leases and takeovers. A delayed conditional PUT is
just a `flip` step scheduled late.
-/
namespace DSV.Occ

/-- **ack_replaced_validated** — on a CAS backend whose ETag comes from the read that validation used, with NO assumption
about the lock: every acknowledged flip replaced the very version it validated against and was derived from; the flips
form one chain, so no acknowledged commit is overwritten. -/
theorem ack_replaced_validated (cfg : Cfg) (kind : Nat → Kind) (h : CasCfg cfg) (s : Sys) (hr : Reach cfg kind s) :
    FlipsOk s ∧ Chain s.flips ∧ s.hint.fid = headFid s.flips :=
  (inv_reach (Or.inr h) hr).serial

/-- **lost_lock_is_conflict** — a committer whose fencing check finds the lock lost reports a retryable conflict:
it does not flip and the pointer is untouched. -/
theorem lost_lock_is_conflict (cfg : Cfg) (s s' : Sys) (a : Nat) (hx : cfg.exclusive = false)
    (h : step cfg s a (.fence false) = some s') : s'.pc a = .conflict ∧ s'.flips = s.flips ∧ s'.hint = s.hint := by
  have _ := hx  -- not needed: the step is enabled only without exclusion
  obtain ⟨b, n, e, _, _, rfl⟩ := step_fence h
  exact ⟨if_pos rfl, rfl, rfl⟩

/-- the CAS backend as found: validation read and ETag read are two separate reads of the pointer -/
def asFoundCas : Cfg := { cas := true, exclusive := false, strictStamp := true, singleRead := false }

/-- actor 2 commits between actor 1's validation read and actor 1's ETag read -/
def twoReadSched : List (Nat × Act) :=
  [(1, .readBase), (2, .readBase), (1, .acquire), (2, .acquire),
   (1, .validate),
   (2, .validate), (2, .etagRead), (2, .writeMeta 0), (2, .fence true), (2, .flip), (2, .release false),
   (1, .etagRead), (1, .writeMeta 0), (1, .fence true), (1, .flip), (1, .release false)]

/-- **two_reads_refuted** (regression witness; the code as found) — with a lock that does not exclude, actor 1 validates
against version 0, actor 2 commits version 1, actor 1 then reads the ETag of the pointer naming version 1 and its
conditional PUT succeeds: version 1 is replaced by a version derived from 0 — an acknowledged update is lost. -/
theorem two_reads_refuted : ∃ s, Reach asFoundCas (fun _ => .snap) s ∧ ¬ FlipsOk s ∧
    s.pc 1 = .done true ∧ s.pc 2 = .done true :=
  -- the newer flip was derived from version 0 and replaced version 1
  lost_update_witness (sched := twoReadSched) (f := ⟨1, 0, 1, 2⟩) (rest := [⟨2, 0, 0, 1⟩]) (by decide) (by decide +kernel)

/-- Non-vacuity: in the repaired configuration the same interleaving ends in a conflict for actor 1. -/
def repairedCas : Cfg := { cas := true, exclusive := false, strictStamp := true, singleRead := true }
example : ((runSched repairedCas (init fun _ => .snap)
    [(1, .readBase), (2, .readBase), (1, .acquire), (2, .acquire), (1, .validate),
     (2, .validate), (2, .writeMeta 0), (2, .fence true), (2, .flip), (2, .release false),
     (1, .writeMeta 0), (1, .fence true), (1, .flip)]).map (fun s => (s.pc 1, s.flips))) =
    some (.conflict, [⟨2, 0, 0, 1⟩]) := by decide +kernel

end DSV.Occ

/-! ## Tie to the current source: where the ETag of the conditional pointer write comes from -/
namespace DSV.Src.C08
open DSV.Skel DSV.Generated.Skel

/-- **source_single_read** — in the CURRENT source the commit-point routine performs no read of its own, and the ETag'd
read reads the pointer exactly once and never through `refresh` / `_read_version_hint`: the model's `singleRead` holds. -/
theorem source_single_read : singleReadOf mmWriteHint mmReadCurrentEtag = true := by decide +kernel

/-- **source_flip_is_conditional** — the commit-point routine's writes are the conditional PUT (CAS branch) and the plain
write (atomic-rename backends), in that order, nothing else. -/
theorem source_flip_is_conditional :
    project [("storage.write_file_cas", "cas"), ("storage.write_file", "plain"), ("storage.write_json", "plain"),
             ("storage.delete_file", "delete")] mmWriteHint = ["cas", "plain"] := by decide +kernel

/-- **ack_replaced_validated_source** — `ack_replaced_validated` with the `singleRead` switch READ OFF the current source:
nothing assumed about the lock. -/
theorem ack_replaced_validated_source (excl : Bool) (kind : Nat → Occ.Kind) (s : Occ.Sys)
    (hr : Occ.Reach ⟨true, excl, true, singleReadOf mmWriteHint mmReadCurrentEtag⟩ kind s) :
    Occ.FlipsOk s ∧ Occ.Chain s.flips ∧ s.hint.fid = Occ.headFid s.flips := by
  rw [source_single_read] at hr
  exact Occ.ack_replaced_validated _ kind ⟨rfl, rfl, rfl⟩ s hr

end DSV.Src.C08
