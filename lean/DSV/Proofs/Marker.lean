import DSV.Model.Marker
namespace DSV.Marker

/-- The fold of `register` from any accumulator: `new` are the paths it registers; afterwards every path's name is held. -/
theorem register_fold (name : Str → Str) (paths : List Str) : ∀ held done : List Str,
    ∃ new, new ⊆ paths ∧ (∀ p ∈ paths, name p ∈ held ++ new.map name) ∧
      paths.foldl (fun (acc : List Str × List Str) p =>
        if acc.1.contains (name p) then acc else (acc.1 ++ [name p], acc.2 ++ [p])) (held, done) = (held ++ new.map name, done ++ new) := by
  induction paths with
  | nil => intro held done; exact ⟨[], nofun, nofun, by simp⟩
  | cons q rest ih =>
    intro held done
    rw [List.foldl_cons]
    by_cases hc : held.contains (name q)
    · obtain ⟨new, h1, h2, e⟩ := ih held done
      rw [if_pos hc]
      exact ⟨new, List.subset_cons_of_subset _ h1,
        List.forall_mem_cons.2 ⟨List.mem_append_left _ (List.contains_iff_mem.1 hc), h2⟩, e⟩
    · obtain ⟨new, h1, h2, e⟩ := ih (held ++ [name q]) (done ++ [q])
      rw [if_neg hc]
      simp only [List.append_assoc] at h2 e
      exact ⟨q :: new, List.cons_subset_cons _ h1,
        List.forall_mem_cons.2 ⟨List.mem_append_right _ List.mem_cons_self, h2⟩, e⟩

theorem register_pair (name : Str → Str) (p q : Str) :
    (register name [] [p, q]).2 = if name q = name p then [p] else [p, q] := by
  by_cases h : name q = name p <;> simp [register, h]

theorem markerNamePrebuilt_eq (d : Str → Str) (p : Str) :
    markerNamePrebuilt d p = d (lstripSlash p) ++ '-' :: markerNameBasename p := by
  simp [markerNamePrebuilt, markerNameOf, markerNameBasename]

theorem markerNamePrebuilt_digest_inj {d₁ d₂ : Str → Str} {p q : Str} (hb : markerNameBasename p = markerNameBasename q)
    (h : markerNamePrebuilt d₁ p = markerNamePrebuilt d₂ q) : d₁ (lstripSlash p) = d₂ (lstripSlash q) := by
  rw [markerNamePrebuilt_eq, markerNamePrebuilt_eq, hb] at h
  exact List.append_cancel_right h

theorem markerName_of_parent (digest : Str → Str) {p parent name : Str} (h : rpartition (lstripSlash p) = (parent, name))
    (hp : parent = dataDir ∨ parent = manifestsDir) : markerName digest p = name := by
  simp [markerName, markerNameOf, h, hp]

theorem markerNamePathOnly_of_parent (pd : Str → Str) {p parent name : Str} (h : rpartition (lstripSlash p) = (parent, name))
    (hp : parent = dataDir ∨ parent = manifestsDir) : markerNamePathOnly pd p = name := by
  simp [markerNamePathOnly, h, hp]

end DSV.Marker
