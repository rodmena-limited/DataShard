import DSV.Proofs.Fs
/-! Proofs behind `DSV/Props/C03.lean`. -/

namespace DSV.Fs

/-- what a PROCESS death leaves (page cache intact): the path is there with its full content -/
def Visible (s : St) (p : Nat) : Prop := (s p).present = true ∧ (s p).written = true

/-- the ids a commit's trace may touch -/
def commitIds (files : List W) (hint : W) : List Nat := (files ++ [hint]).flatMap fun w => [w.tmp, w.fin]

theorem Durable.visible {s : St} {p : Nat} (h : Durable s p) : Visible s p := ⟨h.1, h.2.1⟩

theorem SameUpToEntry.visible {s s' : St} {p : Nat} (h : SameUpToEntry (s' p) (s p)) (hv : Visible s p) : Visible s' p := by
  obtain ⟨hpres, hwr, -⟩ := h
  exact ⟨hpres.trans hv.1, hwr.trans hv.2⟩

theorem SameUpToEntry.eq_of_entryDurable {a b : PathSt} (h : SameUpToEntry a b) (h0 : b.entryDurable = true) : a = b := by
  obtain ⟨h1, h2, h3, h4, h5⟩ := h
  cases a; cases b
  simp_all

theorem commitTrace_eq_flatMap (files : List W) (hint : W) :
    commitTrace files hint = (files ++ [hint]).flatMap (fun w => lowerWrite w.tmp w.fin w.dir) := by
  simp [commitTrace]

theorem length_flatMap_lowerWrite (files : List W) :
    (files.flatMap (fun w => lowerWrite w.tmp w.fin w.dir)).length = 5 * files.length := by
  rw [List.length_flatMap]
  simp only [lowerWrite, List.length_cons, List.length_nil, List.map_const', List.sum_replicate_nat, Nat.mul_comm]

theorem commitTrace_take (files : List W) (hint : W) (k : Nat) :
    (commitTrace files hint).take k =
      (files.flatMap (fun w => lowerWrite w.tmp w.fin w.dir)).take k ++
        (lowerWrite hint.tmp hint.fin hint.dir).take (k - 5 * files.length) := by
  rw [commitTrace, List.take_append, length_flatMap_lowerWrite]

/-- from its rename on, the target of one atomic write is visible with full content -/
theorem lowerWrite_visible (s : St) (t p d : Nat) (h : t ≠ p) (k : Nat) (hk : 4 ≤ k) :
    Visible (run s ((lowerWrite t p d).take k)) p := by
  obtain ⟨j, rfl⟩ := Nat.exists_eq_add_of_le' hk
  have h4 : Visible (run s [.creat t d, .write t, .fsync t, .rename t p]) p := by
    simp [run, apply, Visible, Ne.symm h]
  -- what follows the rename is at most the directory fsync
  show Visible (run s ([.creat t d, .write t, .fsync t, .rename t p] ++ [Ev.fsyncDir d].take j)) p
  rw [run_append]
  exact (run_take_foreign p [.fsyncDir d] j _ (List.forall_mem_singleton.2 trivial)).visible h4

theorem commitTrace_foreign (files : List W) (hint : W) (s : St) (k : Nat) (p : Nat) (hp : p ∉ commitIds files hint) :
    SameUpToEntry (run s ((commitTrace files hint).take k) p) (s p) := by
  refine run_take_foreign p _ k s ?_
  rw [commitTrace_eq_flatMap]
  refine List.forall_mem_flatMap.2 fun w hw => ?_
  have hid : ∀ x ∈ [w.tmp, w.fin], x ≠ p := fun x hx hxp => hp (hxp ▸ List.mem_flatMap.2 ⟨w, hw, hx⟩)
  exact lowerWrite_foreign w.tmp w.fin w.dir p (hid _ List.mem_cons_self)
    (hid _ (List.mem_cons_of_mem _ List.mem_cons_self))

theorem pointer_before_rename (files : List W) (hint : W) (s : St) (hwf : WfCommit files hint s) (k : Nat)
    (hk : k ≤ 5 * files.length + 3) :
    SameUpToEntry (run s ((commitTrace files hint).take k) hint.fin) (s hint.fin) := by
  -- the pointer's own lowering has not reached its rename; the files' lowerings name neither its temp nor its path
  rw [commitTrace_take, run_append,
    lowerWrite_before_rename _ _ _ _ hwf.pointer_tmp_ne _ (Nat.sub_le_iff_le_add'.2 hk)]
  exact run_take_foreign hint.fin _ k s (List.forall_mem_flatMap.2 fun w hw =>
    lowerWrite_foreign w.tmp w.fin w.dir hint.fin (hwf.disjoint w (List.mem_append_left _ hw) hint List.mem_concat_self)
      (hwf.fin_pairwise.2 w hw))

/-- the positive half beside `crash_pre_full_equality_refuted` (`DSV/Props/C03.lean`): full equality does hold when the old
pointer entry is already durable (it cannot be newly persisted) -/
theorem crash_pre_eq_of' (files : List W) (hint : W) (s : St) (hwf : WfCommit files hint s) (k : Nat)
    (hk : k ≤ 5 * files.length + 3) (h0 : (s hint.fin).entryDurable = true) :
    run s ((commitTrace files hint).take k) hint.fin = s hint.fin :=
  (pointer_before_rename files hint s hwf k hk).eq_of_entryDurable h0

end DSV.Fs
