import DSV.Model.Backend
/-! Lemmas behind `DSV/Props/C20.lean`: what one read of the range reader delivers, the retry loop after a run of
transient failures, and string-level against component-level prefixes of paths. -/
namespace DSV.Backend

def WfName (n : Name) : Prop := n ≠ [] ∧ '/' ∉ n
def WfPath (p : Path) : Prop := ∀ n ∈ p, WfName n

theorem range_len (p : Nat) {k : Nat} (hk : 0 < k) : p + k - 1 - p + 1 = k := by
  rw [Nat.add_sub_assoc hk, Nat.add_sub_cancel_left, Nat.sub_add_cancel hk]

/-- `readinto` delivers `k = min want (size - pos)` bytes starting at `pos`, through one ranged GET for exactly those
bytes unless `k = 0` -/
theorem RF.readinto_eq (f : RF) (want : Nat) :
    f.readinto want = ({ f with pos := f.pos + min want (f.size - f.pos) },
      if min want (f.size - f.pos) = 0 then none else some (f.pos, f.pos + min want (f.size - f.pos) - 1),
      min want (f.size - f.pos)) := by
  unfold RF.readinto
  split
  · next h =>
    have hk : min want (f.size - f.pos) = 0 := by
      rcases h with h | h
      · rw [h, Nat.zero_min]
      · rw [Nat.sub_eq_zero_of_le h, Nat.min_zero]
    rw [hk]; rfl
  · next h =>
    have hlt : f.pos < f.size := Nat.lt_of_not_le fun e => h (Or.inr e)
    have hk : 0 < min want (f.size - f.pos) :=
      Nat.lt_min.2 ⟨Nat.pos_of_ne_zero fun e => h (Or.inl e), Nat.sub_pos_of_lt hlt⟩
    have hm : min (f.pos + want) f.size = f.pos + min want (f.size - f.pos) := by
      rw [← Nat.add_min_add_left, Nat.add_sub_of_le (Nat.le_of_lt hlt)]
    simp only [hm, range_len f.pos hk, if_neg (Nat.ne_of_gt hk)]

theorem RF.readall_eq (f : RF) : f.readall = f.readinto (f.size - f.pos) := by
  unfold RF.readall RF.readinto
  split
  · next h => rw [if_pos (Or.inr h)]
  · next h =>
    have hlt : f.pos < f.size := Nat.lt_of_not_le h
    rw [if_neg (fun e => e.elim (Nat.ne_of_gt (Nat.sub_pos_of_lt hlt)) h), Nat.add_sub_of_le (Nat.le_of_lt hlt),
      Nat.min_self]

theorem RF.readinto_range (f : RF) (want a b : Nat) (h : (f.readinto want).2.1 = some (a, b)) :
    a = f.pos ∧ a ≤ b ∧ b < f.size ∧ (f.readinto want).2.2 = b - a + 1 := by
  rw [RF.readinto_eq] at h ⊢
  have hle : min want (f.size - f.pos) ≤ f.size - f.pos := Nat.min_le_right ..
  generalize min want (f.size - f.pos) = k at *
  split at h
  · cases h
  · next hk =>
    cases h
    have hk : 0 < k := Nat.pos_of_ne_zero hk
    have hks : f.pos + k ≤ f.size :=
      Nat.add_le_of_le_sub' (Nat.le_of_lt (Nat.lt_of_sub_pos (Nat.lt_of_lt_of_le hk hle))) hle
    exact ⟨rfl, Nat.le_sub_one_of_lt (Nat.lt_add_of_pos_right hk), Nat.sub_one_lt_of_le (Nat.add_pos_right _ hk) hks,
      (range_len f.pos hk).symm⟩

theorem retryLoop_used (b used : Nat) (as : List Attempt) : (retryLoop b used as).2 ≤ used + b := by
  -- the branches of `retryLoop` in order: 1 no budget, 2 no attempt left (nothing more is counted); 3–6 success, permanent,
  -- non-retryable, transient on the last of the budget (one more attempt, and the loop ends); 7 transient with budget left, the
  -- only one that goes on
  fun_induction retryLoop b used as with
  | case1 => exact Nat.le_refl _
  | case2 => exact Nat.le_add_right ..
  | case7 b used rest _ ih => exact Nat.le_trans ih (Nat.le_of_eq (Nat.add_right_comm used 1 b))
  | _ => exact Nat.add_le_add_left (Nat.le_add_left 1 _) _

theorem retryLoop_transients (b : Nat) (hb : b ≠ 0) (k : Nat) : ∀ (used : Nat) (rest : List Attempt),
    retryLoop (b + k) used (List.replicate k .transient ++ rest) = retryLoop b (used + k) rest := by
  induction k with
  | zero => exact fun _ _ => rfl
  | succ k ih =>
    intro used rest
    have hbk : b + k ≠ 0 := fun e => hb (Nat.eq_zero_of_add_eq_zero_right e)
    rw [← Nat.add_assoc, List.replicate_succ, List.cons_append, retryLoop, if_neg hbk, ih, Nat.add_assoc, Nat.add_comm 1]

/-- the budget that is left is written as a successor, so that `retryLoop` evaluates the attempt after the transients by `rfl`:
the four outcomes in `DSV/Props/C20.lean` are instances closed that way -/
theorem retry_transients (m k : Nat) (hk : k ≤ m) (rest : List Attempt) :
    retry m (List.replicate k .transient ++ rest) = retryLoop (m - k + 1) k rest := by
  have hm : m + 1 = m - k + 1 + k := by rw [Nat.add_right_comm, Nat.sub_add_cancel hk]
  rw [retry, hm, retryLoop_transients _ (Nat.succ_ne_zero _), Nat.zero_add]

/-- a '/'-free name followed by '/' is self-delimiting: one such string is a prefix of another only if the two names are
equal, and then what follows them decides -/
theorem sep_prefix : ∀ (n m x y : List Char), '/' ∉ n → '/' ∉ m →
    ((n ++ '/' :: x) <+: (m ++ '/' :: y) ↔ n = m ∧ x <+: y)
  | [], [], x, y, _, _ => by simp
  | [], c :: m, x, y, _, hm => by
    have hc : '/' ≠ c := fun e => hm (e ▸ List.mem_cons_self)
    simp [hc]
  | a :: n, [], x, y, hn, _ => by
    have ha : a ≠ '/' := fun e => hn (e ▸ List.mem_cons_self)
    simp [ha]
  | a :: n, c :: m, x, y, hn, hm => by
    simp only [List.cons_append, List.cons_prefix_cons, List.cons.injEq, and_assoc,
      sep_prefix n m x y (fun h => hn (List.mem_cons_of_mem _ h)) (fun h => hm (List.mem_cons_of_mem _ h))]

theorem sep_not_prefix_name (n x m : List Char) (hm : '/' ∉ m) : ¬ (n ++ '/' :: x) <+: m := by
  rintro ⟨t, rfl⟩
  exact hm (by simp)

theorem joinPath_cons2 (m m2 : Name) (rest : Path) :
    joinPath (m :: m2 :: rest) = m ++ '/' :: joinPath (m2 :: rest) := rfl

/-- the key of a directory, with the trailing separator under which its content is listed -/
def dirKey : Path → List Char
  | [] => []
  | n :: rest => n ++ '/' :: dirKey rest

theorem joinPath_sep : ∀ d : Path, d ≠ [] → joinPath d ++ ['/'] = dirKey d
  | [n], _ => rfl
  | n :: m :: rest, _ => by
    rw [joinPath_cons2, List.append_assoc, List.cons_append, joinPath_sep (m :: rest) (List.cons_ne_nil _ _)]; rfl

/-- string-level directory matching = component-level proper prefix, for well-formed names -/
theorem dirKey_prefix_iff : ∀ (d f : Path), f ≠ [] → WfPath d → WfPath f →
    (dirKey d <+: joinPath f ↔ d <+: f ∧ d.length < f.length)
  | [], m :: fr, _, _, _ => by simp [dirKey]
  | n :: dr, [m], _, _, hf => by
    have := sep_not_prefix_name n (dirKey dr) m (hf m List.mem_cons_self).2
    simp [dirKey, joinPath, this]
  | n :: dr, m :: m2 :: rest, _, hd, hf => by
    rw [dirKey, joinPath_cons2, sep_prefix n m _ _ (hd n List.mem_cons_self).2 (hf m List.mem_cons_self).2,
      dirKey_prefix_iff dr (m2 :: rest) (List.cons_ne_nil _ _) (fun x hx => hd x (List.mem_cons_of_mem _ hx))
        (fun x hx => hf x (List.mem_cons_of_mem _ hx))]
    simp only [List.cons_prefix_cons, List.length_cons, Nat.add_lt_add_iff_right, and_assoc]

end DSV.Backend
