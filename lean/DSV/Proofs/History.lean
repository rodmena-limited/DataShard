import DSV.Model.History
import DSV.Proofs.Meta
/-!
Lemmas for C09 over `DSV.History`: what a commit writes (`writeFiles_spec`), what a collection keeps (`collect_keeps_content`), and the
invariant `Inv` of every history.  The property theorems are in `DSV/Props/C09.lean`.
-/
namespace DSV.History
open DSV.Meta

/-- precondition the real system guarantees by construction: snapshot ids are fresh (random 63-bit ids) -/
def OpOk (s : St) : Op → Prop
  | .commit _ id _ _ _ => id ∉ s.md.hist.map (·.1)
  | _ => True

instance (s : St) (op : Op) : Decidable (OpOk s op) := by
  cases op <;> unfold OpOk <;> infer_instance

def OpsOk : St → List Op → Prop
  | _, [] => True
  | s, op :: rest => OpOk s op ∧ OpsOk (step s op) rest

instance : (s : St) → (ops : List Op) → Decidable (OpsOk s ops)
  | _, [] => isTrue trivial
  | s, op :: rest => by
      unfold OpsOk
      have := instDecidableOpsOk (step s op) rest
      infer_instance

/-- non-decreasing clock (equal timestamps allowed) -/
def OpMono (s : St) : Op → Prop
  | .commit now _ _ _ _ => ∀ sn ∈ s.md.snaps, sn.ts ≤ now
  | _ => True

def OpsMono : St → List Op → Prop
  | _, [] => True
  | s, op :: rest => OpMono s op ∧ OpsMono (step s op) rest

theorem retain_unset (m : Meta) (h : m.retention = Option.none) : retain m = m := by
  unfold retain
  rw [h]

theorem lookup_notin_none {β} {M : List (Nat × β)} {k : Nat} (h : k ∉ M.map (·.1)) : M.lookup k = none :=
  List.lookup_eq_none_iff.2 fun p hp => bne_iff_ne.2 fun e => h (List.mem_map.2 ⟨p, hp, e.symm⟩)

theorem lookup_append_notin {β} {M : List (Nat × β)} {k : Nat} (h : k ∉ M.map (·.1)) (W : List (Nat × β)) :
    (M ++ W).lookup k = W.lookup k := by
  rw [List.lookup_append, lookup_notin_none h, Option.none_or]

theorem fresh_notin {β} {M : List (Nat × β)} {n : Nat} (h : ∀ p ∈ M, p.1 < n) : n ∉ M.map (·.1) := fun hn =>
  have ⟨p, hp, e⟩ := List.mem_map.1 hn
  Nat.lt_irrefl n (e ▸ h p hp)

theorem fresh_snoc {β} {M : List (Nat × β)} {n : Nat} (h : ∀ p ∈ M, p.1 < n) (v : β) : ∀ p ∈ M ++ [(n, v)], p.1 < n + 1 :=
  List.forall_mem_append.2 ⟨fun p hp => Nat.lt_succ_of_lt (h p hp), List.forall_mem_singleton.2 (Nat.lt_succ_self n)⟩

abbrev nd (deleted : List Nat) : Nat → Bool := fun d => !deleted.contains d
abbrev flat (ms : List (Nat × List Nat)) : List Nat := (ms.map (·.2)).flatten

theorem mapM_lookup_eq_some (M : List (Nat × List Nat)) {l : List Nat} {x : List (Nat × List Nat)} :
    l.mapM (fun m => (M.lookup m).map fun ds => (m, ds)) = some x ↔ x.map (·.1) = l ∧ ∀ p ∈ x, M.lookup p.1 = some p.2 := by
  induction l generalizing x with
  | nil =>
    rw [List.map_eq_nil_iff]
    constructor
    · rintro ⟨⟩; exact ⟨rfl, nofun⟩
    · rintro ⟨rfl, -⟩; rfl
  | cons m l ih =>
    rw [List.mapM_cons]
    simp only [Option.bind_eq_bind, Option.bind_eq_some_iff, Option.map_eq_some_iff, ih]
    constructor
    · rintro ⟨_, ⟨ds, h1, rfl⟩, r, ⟨rfl, h2⟩, ⟨⟩⟩
      exact ⟨rfl, List.forall_mem_cons.2 ⟨h1, h2⟩⟩
    · rintro ⟨e, h⟩
      cases x with
      | nil => cases e
      | cons p x =>
        cases e
        exact ⟨_, ⟨_, h p List.mem_cons_self, rfl⟩, x, ⟨rfl, fun q hq => h q (List.mem_cons_of_mem _ hq)⟩, rfl⟩

theorem manifestsOf_eq_some {f : Files} {l : Nat} {ms : List (Nat × List Nat)} :
    manifestsOf f l = some ms ↔ f.mlists.lookup l = some (ms.map (·.1)) ∧ ∀ p ∈ ms, f.manifests.lookup p.1 = some p.2 := by
  unfold manifestsOf
  split
  · rename_i h; simp [h]
  · rename_i names h
    rw [h, mapM_lookup_eq_some, Option.some.injEq, eq_comm]

theorem filesOf_eq_some {f : Files} {l : Nat} {c : List Nat} :
    filesOf f l = some c ↔ ∃ ms, manifestsOf f l = some ms ∧ flat ms = c ∧ ∀ d ∈ c, d ∈ f.data := by
  unfold filesOf
  cases manifestsOf f l with
  | none => simp
  | some ms =>
    simp only [Option.ite_none_right_eq_some, Option.some.injEq, exists_eq_left', List.all_eq_true, List.contains_iff_mem]
    constructor
    · rintro ⟨h, rfl⟩; exact ⟨rfl, h⟩
    · rintro ⟨rfl, h⟩; exact ⟨h, rfl⟩

theorem content_eq_some {s : St} {i : Nat} {c : List Nat} :
    content s i = some c ↔ ∃ l, s.mlistOf.lookup i = some l ∧ filesOf s.files l = some c := by
  unfold content
  cases s.mlistOf.lookup i <;> simp

structure Ext (f f' : Files) : Prop where
  ml : f.mlists <+: f'.mlists
  mf : f.manifests <+: f'.manifests
  dt : f.data ⊆ f'.data

theorem Ext.refl (f : Files) : Ext f f := ⟨List.prefix_refl _, List.prefix_refl _, List.Subset.refl _⟩

theorem filesOf_mono {f f' : Files} (h : Ext f f') {l : Nat} {c : List Nat} (hc : filesOf f l = some c) : filesOf f' l = some c := by
  obtain ⟨ms, h1, h2, h3⟩ := filesOf_eq_some.1 hc
  obtain ⟨h4, h5⟩ := manifestsOf_eq_some.1 h1
  exact filesOf_eq_some.2 ⟨ms, manifestsOf_eq_some.2 ⟨h.ml.lookup_eq_some h4, fun p hp => h.mf.lookup_eq_some (h5 p hp)⟩, h2, fun d hd => h.dt (h3 d hd)⟩

/-- the `base` of `writeFiles`; `writeFiles_eq` is the tie of `baseOf`, `plan` and `mkW` to the model -/
def baseOf (s : St) : Option (List (Nat × List Nat)) :=
  match s.md.cur with
  | P.id c => (match s.mlistOf.lookup c with | none => none | some l => manifestsOf s.files l)
  | _ => some []

abbrev newDataOf (s : St) (nApp : Nat) : List Nat := (List.range nApp).map (· + s.nextD)

/-- (next manifest name, manifests written, final manifest names) of a commit over base manifests `ms`: the two triples of
`writeFiles` through projections (`writeFiles_eq`), so that no proof has to destructure its `let (a, b, c) := if …` -/
def plan (s : St) (nApp : Nat) (deleted : List Nat) (ms : List (Nat × List Nat)) : Nat × List (Nat × List Nat) × List Nat :=
  let p1 := if deleted.isEmpty then (s.nextM, [], ms.map (·.1)) else rewriteAll deleted ms s.nextM [] []
  if nApp == 0 then p1 else (p1.1 + 1, p1.2.1 ++ [(p1.1, newDataOf s nApp)], p1.2.2 ++ [p1.1])

def mkW (s : St) (nApp : Nat) (p : Nat × List (Nat × List Nat) × List Nat) : Written :=
  { files := { manifests := s.files.manifests ++ p.2.1, mlists := s.files.mlists ++ [(s.nextL, p.2.2)],
               data := s.files.data ++ newDataOf s nApp },
    nextD := s.nextD + nApp, nextM := p.1, nextL := s.nextL + 1, mlist := s.nextL, newData := newDataOf s nApp }

theorem writeFiles_eq (s : St) (nApp : Nat) (deleted : List Nat) :
    writeFiles s nApp deleted = (baseOf s).map fun ms => mkW s nApp (plan s nApp deleted ms) := by
  show (match baseOf s with | none => none | some ms => some (mkW s nApp (plan s nApp deleted ms))) = _
  cases baseOf s <;> rfl

/-- `p = (next name, manifests written, final names)`: the manifest plane `M` with the written manifests is keyed below the next
name, and the final names are present in it, with entries `c` overall -/
def PlanOk (M : List (Nat × List Nat)) (c : List Nat) (p : Nat × List (Nat × List Nat) × List Nat) : Prop :=
  (∀ q ∈ M ++ p.2.1, q.1 < p.1) ∧
    ∃ r, r.map (·.1) = p.2.2 ∧ (∀ q ∈ r, (M ++ p.2.1).lookup q.1 = some q.2) ∧ flat r = c

theorem PlanOk.keep {M : List (Nat × List Nat)} {c : List Nat} {p : Nat × List (Nat × List Nat) × List Nat}
    (h : PlanOk M c p) {m : Nat × List Nat} (hm : M.lookup m.1 = some m.2) :
    PlanOk M (c ++ m.2) (p.1, p.2.1, p.2.2 ++ [m.1]) := by
  obtain ⟨h1, r, h2, h3, h4⟩ := h
  exact ⟨h1, r ++ [m], by simp [h2],
    List.forall_mem_append.2 ⟨h3, List.forall_mem_singleton.2 ((List.prefix_append _ _).lookup_eq_some hm)⟩,
    by simp [flat, ← h4]⟩

theorem PlanOk.append {M : List (Nat × List Nat)} {c : List Nat} {p : Nat × List (Nat × List Nat) × List Nat}
    (h : PlanOk M c p) (d : List Nat) : PlanOk M (c ++ d) (p.1 + 1, p.2.1 ++ [(p.1, d)], p.2.2 ++ [p.1]) := by
  obtain ⟨h1, r, h2, h3, h4⟩ := h
  unfold PlanOk
  rw [← List.append_assoc]
  exact ⟨fresh_snoc h1 d, r ++ [(p.1, d)], by simp [h2],
    List.forall_mem_append.2 ⟨fun q hq => (List.prefix_append _ _).lookup_eq_some (h3 q hq),
      List.forall_mem_singleton.2 ((lookup_append_notin (fresh_notin h1) _).trans List.lookup_cons_self)⟩,
    by simp [flat, ← h4]⟩

theorem PlanOk.rewrite {M : List (Nat × List Nat)} (deleted : List Nat)
    (ms : List (Nat × List Nat)) (hms : ∀ p ∈ ms, M.lookup p.1 = some p.2) {c : List Nat} {nx : Nat}
    {written : List (Nat × List Nat)} {final : List Nat} (h : PlanOk M c (nx, written, final)) :
    PlanOk M (c ++ (flat ms).filter (nd deleted)) (rewriteAll deleted ms nx written final) := by
  have hflat : ∀ (c : List Nat) (m : Nat × List Nat) (rest : List (Nat × List Nat)),
      c ++ (flat (m :: rest)).filter (nd deleted) = c ++ m.2.filter (nd deleted) ++ (flat rest).filter (nd deleted) := by
    intro c m rest
    show c ++ (m.2 ++ flat rest).filter (nd deleted) = _
    rw [List.filter_append, List.append_assoc]
  fun_induction rewriteAll deleted ms nx written final generalizing c with
  | case1 nx written final => exact (List.append_nil c).symm ▸ h
  | case2 m rest nx written final surv hlen ih =>
    rw [hflat, show m.2.filter (nd deleted) = m.2 from
      List.filter_eq_self.2 (List.length_filter_eq_length_iff.1 (beq_iff_eq.1 hlen))]
    exact ih (fun p hp => hms p (List.mem_cons_of_mem _ hp)) (h.keep (hms m List.mem_cons_self))
  | case3 m rest nx written final surv hlen hemp ih =>
    rw [hflat, show m.2.filter (nd deleted) = [] from List.isEmpty_iff.1 hemp, List.append_nil]
    exact ih (fun p hp => hms p (List.mem_cons_of_mem _ hp)) h
  | case4 m rest nx written final surv hlen hemp ih =>
    rw [hflat]
    exact ih (fun p hp => hms p (List.mem_cons_of_mem _ hp)) (h.append surv)

theorem planOk_delete {M ms : List (Nat × List Nat)} {n : Nat} (deleted : List Nat) (hM : ∀ p ∈ M, p.1 < n)
    (hms : ∀ p ∈ ms, M.lookup p.1 = some p.2) :
    PlanOk M ((flat ms).filter (nd deleted))
      (if deleted.isEmpty then (n, [], ms.map (·.1)) else rewriteAll deleted ms n [] []) := by
  have hM' : ∀ q ∈ M ++ [], q.1 < n := (List.append_nil M).symm ▸ hM
  cases deleted with
  | nil => exact ⟨hM', ms, rfl, fun q hq => (List.append_nil M).symm ▸ hms q hq, (List.filter_eq_self.2 fun _ _ => rfl).symm⟩
  | cons d ds =>
    have init : PlanOk M [] (n, [], []) := ⟨hM', [], rfl, nofun, rfl⟩
    exact init.rewrite _ ms hms

theorem plan_spec (s : St) (nApp : Nat) (deleted : List Nat) (ms : List (Nat × List Nat))
    (hM : ∀ p ∈ s.files.manifests, p.1 < s.nextM) (hms : ∀ p ∈ ms, s.files.manifests.lookup p.1 = some p.2) :
    PlanOk s.files.manifests ((flat ms).filter (nd deleted) ++ newDataOf s nApp) (plan s nApp deleted ms) := by
  cases nApp with
  | zero => exact (List.append_nil _).symm ▸ planOk_delete deleted hM hms
  | succ n => exact (planOk_delete deleted hM hms).append _

/-- `good`: every retained snapshot has its record in `committed` and reads back exactly that record. `histC`, `histL`: the
ghost record and `mlistOf` are keyed by the ids of the metadata's history, so that the fresh id of a commit (`OpOk`) is in neither
and the entry appended for it leaves the lookups of all older ids as they were. -/
structure Inv (s : St) : Prop where
  wf : WF s.md
  mfresh : ∀ p ∈ s.files.manifests, p.1 < s.nextM
  lfresh : ∀ p ∈ s.files.mlists, p.1 < s.nextL
  histC : s.committed.map (·.1) = s.md.hist.map (·.1)
  histL : s.mlistOf.map (·.1) = s.md.hist.map (·.1)
  good : ∀ i ∈ s.md.ids, ∃ c, s.committed.lookup i = some c ∧ content s i = some c

def baseContent (s : St) : List Nat := match s.md.cur with | P.id cur => (content s cur).getD [] | _ => []

theorem base_spec (s : St) (hI : Inv s) (ms : List (Nat × List Nat)) (hb : baseOf s = some ms) :
    (∀ p ∈ ms, s.files.manifests.lookup p.1 = some p.2) ∧ flat ms = baseContent s ∧ ∀ d ∈ flat ms, d ∈ s.files.data := by
  unfold baseOf at hb
  unfold baseContent
  -- `split` resolves the match on `s.md.cur` in the goal along with the one in `hb`
  split at hb
  · rename_i c hcur
    obtain ⟨sn, hsn, rfl⟩ := hI.wf.cur_mem hcur
    obtain ⟨cc, -, h2⟩ := hI.good _ (List.mem_map.2 ⟨sn, hsn, rfl⟩)
    obtain ⟨l, hl, h3⟩ := content_eq_some.1 h2
    obtain ⟨ms', e1, e2, e3⟩ := filesOf_eq_some.1 h3
    rw [hl] at hb
    cases e1.symm.trans hb
    exact ⟨(manifestsOf_eq_some.1 hb).2, h2 ▸ e2, e2 ▸ e3⟩
  · cases hb
    exact ⟨nofun, rfl, nofun⟩

theorem writeFiles_spec (s : St) (hI : Inv s) (nApp : Nat) (deleted : List Nat) (w : Written)
    (h : writeFiles s nApp deleted = some w) :
    (∀ p ∈ w.files.manifests, p.1 < w.nextM) ∧ (∀ p ∈ w.files.mlists, p.1 < w.nextL) ∧ Ext s.files w.files ∧
    filesOf w.files w.mlist = some ((baseContent s).filter (nd deleted) ++ newDataOf s nApp) := by
  rw [writeFiles_eq] at h
  obtain ⟨ms, hb, rfl⟩ := Option.map_eq_some_iff.1 h
  obtain ⟨b1, b2, b3⟩ := base_spec s hI ms hb
  obtain ⟨p1, r, p2, p3, p4⟩ := plan_spec s nApp deleted ms hI.mfresh b1
  refine ⟨p1, fresh_snoc hI.lfresh _, ⟨List.prefix_append _ _, List.prefix_append _ _, List.subset_append_left _ _⟩,
    filesOf_eq_some.2 ⟨r, manifestsOf_eq_some.2 ⟨?_, p3⟩, by rw [p4, b2], List.forall_mem_append.2
      ⟨fun d hd => List.mem_append_left _ (b3 d (b2 ▸ (List.mem_filter.1 hd).1)), fun d hd => List.mem_append_right _ hd⟩⟩⟩
  show (s.files.mlists ++ [(s.nextL, _)]).lookup s.nextL = _
  rw [lookup_append_notin (fresh_notin hI.lfresh), p2]; exact List.lookup_cons_self

/-- the function `reach` folds with; the tie to the model is `hr'` in `collect_keeps_content`, which holds by unfolding `reach` -/
def reachF (s : St) (acc : Option Files) (sn : Snap) : Option Files :=
  match acc, s.mlistOf.lookup sn.id with
  | some r, some l =>
    (match manifestsOf s.files l with
     | some ms => some { mlists := r.mlists ++ [(l, [])], manifests := r.manifests ++ ms, data := r.data ++ (ms.map (·.2)).flatten }
     | none => none)
  | _, _ => none

theorem reachF_some {s : St} {acc : Option Files} {sn : Snap} {r : Files} (h : reachF s acc sn = some r) :
    ∃ a l ms, acc = some a ∧ s.mlistOf.lookup sn.id = some l ∧ manifestsOf s.files l = some ms ∧
      r = { mlists := a.mlists ++ [(l, [])], manifests := a.manifests ++ ms, data := a.data ++ flat ms } := by
  unfold reachF at h
  split at h
  · rename_i a l hl
    split at h
    · rename_i ms hm
      exact ⟨a, l, ms, rfl, hl, hm, (Option.some.inj h).symm⟩
    · cases h
  · cases h

/-- `reach` read from its last step (`foldl` as `foldr` over the reversed list): the induction then varies the result `r`, and
nothing has to be said about accumulators -/
theorem reach_covers {s : St} (snaps : List Snap) {r : Files}
    (h : snaps.foldr (fun sn acc => reachF s acc sn) (some ⟨[], [], []⟩) = some r) :
    ∀ sn ∈ snaps, ∃ l ms, s.mlistOf.lookup sn.id = some l ∧ manifestsOf s.files l = some ms ∧
      (l, []) ∈ r.mlists ∧ (∀ p ∈ ms, p ∈ r.manifests) ∧ ∀ d ∈ flat ms, d ∈ r.data := by
  induction snaps generalizing r with
  | nil => nofun
  | cons sn' rest ih =>
    obtain ⟨a, l, ms, ha, hl, hm, rfl⟩ := reachF_some h
    refine List.forall_mem_cons.2 ⟨⟨l, ms, hl, hm, List.mem_concat_self, fun p hp => List.mem_append_right _ hp,
      fun d hd => List.mem_append_right _ hd⟩, fun sn hsn => ?_⟩
    obtain ⟨l', ms', h1, h2, h3, h4, h5⟩ := ih ha sn hsn
    exact ⟨l', ms', h1, h2, List.mem_append_left _ h3, fun p hp => List.mem_append_left _ (h4 p hp),
      fun d hd => List.mem_append_left _ (h5 d hd)⟩

theorem lookup_filter {β} {q : Nat × β → Bool} {k : Nat} (hq : ∀ b, q (k, b) = true) (M : List (Nat × β)) :
    (M.filter q).lookup k = M.lookup k := by
  induction M with
  | nil => rfl
  | cons p M ih =>
    rw [List.filter_cons]
    split
    · rw [List.lookup_cons, List.lookup_cons, ih]
    · rename_i hp
      rw [List.lookup_cons, ih, show (k == p.1) = false from
        beq_false_of_ne fun e => hp (show q (p.1, p.2) = true from e ▸ hq p.2)]

theorem all_congr_mem {α} {l : List α} {p q : α → Bool} (h : ∀ d ∈ l, p d = q d) : l.all p = l.all q := by
  rw [Bool.eq_iff_iff, List.all_eq_true, List.all_eq_true]
  exact forall₂_congr fun d hd => by rw [h d hd]

theorem filesOf_congr {f f' : Files} {l : Nat} {ms : List (Nat × List Nat)} (h : manifestsOf f l = some ms)
    (h' : manifestsOf f' l = some ms) (hd : ∀ d ∈ flat ms, f'.data.contains d = f.data.contains d) :
    filesOf f' l = filesOf f l := by
  unfold filesOf
  rw [h, h']
  simp only []
  rw [all_congr_mem hd]

/-- a member of `keep` is not among the members of `l` outside `keep`: in this boolean form, for the three deletion sets of
`collectWith` -/
theorem not_contains_filter_of_mem {l keep : List Nat} {k : Nat} (h : k ∈ keep) :
    (!(l.filter fun x => !keep.contains x).contains k) = true := by
  simp [h]

theorem collect_keeps_content (s : St) (cands : Files) : ∀ i ∈ s.md.ids, content (collect s cands) i = content s i := by
  intro i hi
  unfold collect
  cases hr : reach s with
  | none => rfl
  | some r =>
    obtain ⟨sn, hsn, rfl⟩ := List.mem_map.1 hi
    have hr' : s.md.snaps.reverse.foldr (fun sn acc => reachF s acc sn) (some ⟨[], [], []⟩) = some r :=
      List.foldl_eq_foldr_reverse.symm.trans hr
    obtain ⟨l, ms, h1, h2, h3, h4, h5⟩ := reach_covers _ hr' sn (List.mem_reverse.2 hsn)
    obtain ⟨e1, e2⟩ := manifestsOf_eq_some.1 h2
    unfold content
    simp only [collectWith, h1]
    -- only names outside `r` are deleted, and `r` holds every name this snapshot reaches
    refine filesOf_congr h2 (manifestsOf_eq_some.2 ⟨?_, fun p hp => ?_⟩) fun d hd => ?_
    · rw [lookup_filter fun _ => not_contains_filter_of_mem (List.mem_map.2 ⟨_, h3, rfl⟩), e1]
    · rw [lookup_filter fun _ => not_contains_filter_of_mem (List.mem_map.2 ⟨_, h4 p hp, rfl⟩), e2 p hp]
    · rw [Bool.eq_iff_iff, List.contains_iff_mem, List.contains_iff_mem, List.mem_filter, not_contains_filter_of_mem (h5 d hd)]
      exact and_iff_left rfl

theorem inv_init : Inv init :=
  ⟨empty_wf, nofun, nofun, rfl, rfl, nofun⟩

theorem Inv.setFiles {s : St} (hI : Inv s) {f' : Files} {nD nM nL : Nat} (hf : Ext s.files f')
    (hm : ∀ p ∈ f'.manifests, p.1 < nM) (hl : ∀ p ∈ f'.mlists, p.1 < nL) :
    Inv { s with files := f', nextD := nD, nextM := nM, nextL := nL } :=
  ⟨hI.wf, hm, hl, hI.histC, hI.histL, fun i hi => by
    obtain ⟨c, h1, h2⟩ := hI.good i hi
    obtain ⟨l, hlook, h3⟩ := content_eq_some.1 h2
    exact ⟨c, h1, content_eq_some.2 ⟨l, hlook, filesOf_mono hf h3⟩⟩⟩

theorem Inv.setMd {s : St} (hI : Inv s) {md' : Meta} (hwf : WF md') (hids : md'.ids ⊆ s.md.ids) (hh : md'.hist = s.md.hist) :
    Inv { s with md := md' } :=
  ⟨hwf, hI.mfresh, hI.lfresh, hh ▸ hI.histC, hh ▸ hI.histL, fun i hi => hI.good i (hids hi)⟩

theorem Inv.commit {s : St} (hI : Inv s) {now id l : Nat} {cutoff : Option Nat} {md' : Meta} {c : List Nat}
    (hid : id ∉ s.md.hist.map (·.1)) (ha : addSnap now id cutoff s.md = .ok md') (hc : filesOf s.files l = some c) :
    Inv { s with md := md', mlistOf := s.mlistOf ++ [(id, l)], committed := s.committed ++ [(id, c)] } := by
  obtain ⟨a3, a1, a2⟩ := addSnap_ok ha
  refine ⟨a3 ▸ step_wf s.md (.add now id cutoff) hI.wf hid, hI.mfresh, hI.lfresh,
    List.map_append.trans (hI.histC ▸ a1.symm), List.map_append.trans (hI.histL ▸ a1.symm), fun i hi => ?_⟩
  rcases List.mem_append.1 (a2 hi) with him | him
  · obtain ⟨c', h1, h2⟩ := hI.good i him
    obtain ⟨l', hl', h3⟩ := content_eq_some.1 h2
    exact ⟨c', (List.prefix_append _ _).lookup_eq_some h1, content_eq_some.2 ⟨l', (List.prefix_append _ _).lookup_eq_some hl', h3⟩⟩
  · cases List.mem_singleton.1 him
    have hc' := (lookup_append_notin (hI.histC ▸ hid) [(id, c)]).trans List.lookup_cons_self
    have hl' := (lookup_append_notin (hI.histL ▸ hid) [(id, l)]).trans List.lookup_cons_self
    exact ⟨c, hc', content_eq_some.2 ⟨l, hl', hc⟩⟩

theorem inv_step (s : St) (op : Op) (hI : Inv s) (hop : OpOk s op) : Inv (step s op) := by
  cases op with
  | commit now id cutoff nApp deleted =>
    rw [step]
    cases hw : writeFiles s nApp deleted with
    | none => exact hI
    | some w =>
      obtain ⟨w1, w2, w3, w7⟩ := writeFiles_spec s hI nApp deleted w hw
      cases ha : addSnap now id cutoff s.md with
      | error e => exact hI.setFiles w3 w1 w2
      | ok md' =>
        simp only [w7]
        exact (hI.setFiles w3 w1 w2).commit hop ha w7
  | expire c => exact hI.setMd (wf_expire c _ hI.wf) (expire_ids_sub c _) rfl
  | delSnap id =>
    rw [step]
    cases hd : Meta.delSnap id s.md with
    | none => exact hI
    | some md' => exact hI.setMd (wf_delSnap hI.wf hd) (delSnap_keeps hd).1 (delSnap_keeps hd).2.1
  | failed nApp deleted cleaned =>
    rw [step]
    cases hw : writeFiles s nApp deleted with
    | none => exact hI
    | some w =>
      obtain ⟨w1, w2, w3, -⟩ := writeFiles_spec s hI nApp deleted w hw
      cases cleaned with
      | true =>
        exact hI.setFiles (Ext.refl _) (fun p hp => w1 p (w3.mf.subset hp)) (fun p hp => w2 p (w3.ml.subset hp))
      | false => exact hI.setFiles w3 w1 w2
  | gc cands =>
    have hk := collect_keeps_content s cands
    rw [step]
    unfold collect at hk ⊢
    cases hr : reach s with
    | none => exact hI
    | some r =>
      rw [hr] at hk
      exact ⟨hI.wf, fun p hp => hI.mfresh p (List.mem_filter.1 hp).1, fun p hp => hI.lfresh p (List.mem_filter.1 hp).1,
        hI.histC, hI.histL, fun i hi => (hI.good i hi).imp fun c h => ⟨h.1, (hk i hi).trans h.2⟩⟩

theorem opsOk_append (a b : List Op) (s : St) : OpsOk s (a ++ b) ↔ OpsOk s a ∧ OpsOk (a.foldl step s) b := by
  induction a generalizing s with
  | nil => exact ⟨fun h => ⟨trivial, h⟩, fun h => h.2⟩
  | cons op a ih => exact (and_congr_right fun _ => ih _).trans and_assoc.symm

theorem inv_foldl (ops : List Op) (s : St) (h : Inv s) (hok : OpsOk s ops) : Inv (ops.foldl step s) := by
  induction ops generalizing s with
  | nil => exact h
  | cons op ops ih => exact ih _ (inv_step s op h hok.1) hok.2

theorem inv_run (ops : List Op) (h : OpsOk init ops) : Inv (run ops) := inv_foldl ops init inv_init h

theorem run_append (a b : List Op) : run (a ++ b) = b.foldl step (run a) := by
  unfold run; rw [List.foldl_append]

theorem collect_md (s : St) (cands : Files) : (collect s cands).md = s.md := by
  unfold collect collectWith; split <;> rfl

theorem step_md_committed (s : St) (op : Op) :
    s.committed <+: (step s op).committed ∧
    ((step s op).md = s.md ∨ ∃ op', (step s op).md = Meta.step s.md op' ∧ (OpMono s op → Meta.OpMono s.md op')) := by
  fun_cases step s op
  -- the three branches that change the metadata: a commit that goes through, an expiry, a snapshot deletion that finds its id
  case case3 now id cutoff _ _ _ _ _ _ ha =>
    exact ⟨List.prefix_append _ _, .inr ⟨.add now id cutoff, (addSnap_ok ha).1, fun h => h⟩⟩
  case case4 c => exact ⟨List.prefix_refl _, .inr ⟨.expireOnly c, rfl, fun _ => trivial⟩⟩
  case case5 id _ hd => exact ⟨List.prefix_refl _, .inr ⟨.del id, by rw [Meta.step, hd], fun _ => trivial⟩⟩
  case case10 => rw [collect]; cases reach s <;> exact ⟨List.prefix_refl _, .inl rfl⟩
  all_goals exact ⟨List.prefix_refl _, .inl rfl⟩

theorem commit_record (s : St) (hI : Inv s) (now id : Nat) (cutoff : Option Nat) (nApp : Nat) (deleted : List Nat) :
    (step s (.commit now id cutoff nApp deleted)).committed = s.committed ∨
    (step s (.commit now id cutoff nApp deleted)).committed =
      s.committed ++ [(id, (baseContent s).filter (nd deleted) ++ newDataOf s nApp)] := by
  rw [step]
  cases hw : writeFiles s nApp deleted with
  | none => exact Or.inl rfl
  | some w =>
    cases addSnap now id cutoff s.md with
    | error e => exact Or.inl rfl
    | ok md' =>
      refine Or.inr ?_
      show s.committed ++ [(id, (filesOf w.files w.mlist).getD [])] = _
      rw [(writeFiles_spec s hI nApp deleted w hw).2.2.2]
      rfl

theorem foldl_committed (ops : List Op) (s : St) : s.committed <+: (ops.foldl step s).committed := by
  induction ops generalizing s with
  | nil => exact List.prefix_refl _
  | cons op ops ih => exact (step_md_committed s op).1.trans (ih _)

theorem content_frozen (ops : List Op) (s : St) (hI : Inv s) (hok : OpsOk s ops) {i : Nat} (h1 : i ∈ s.md.ids)
    (h2 : i ∈ (ops.foldl step s).md.ids) :
    ∃ c, s.committed.lookup i = some c ∧ content s i = some c ∧ content (ops.foldl step s) i = some c := by
  obtain ⟨c1, a1, a2⟩ := hI.good i h1
  obtain ⟨c2, b1, b2⟩ := (inv_foldl ops s hI hok).good i h2
  cases ((foldl_committed ops s).lookup_eq_some a1).symm.trans b1
  exact ⟨c1, a1, a2, b2⟩

theorem chrono_foldl (ops : List Op) (s : St) (hI : Inv s) (hc : Chrono s.md.snaps) (hok : OpsOk s ops) (hm : OpsMono s ops) :
    Chrono (ops.foldl step s).md.snaps := by
  induction ops generalizing s with
  | nil => exact hc
  | cons op ops ih =>
    refine ih _ (inv_step s op hI hok.1) ?_ hok.2 hm.2
    rcases (step_md_committed s op).2 with e | ⟨op', e, h2⟩ <;> rw [e]
    · exact hc
    · exact step_mono s.md op' hI.wf hc (h2 hm.1)

theorem chrono_run (ops : List Op) (h : OpsOk init ops) (hm : OpsMono init ops) : Chrono (run ops).md.snaps :=
  chrono_foldl ops init inv_init List.Pairwise.nil h hm

end DSV.History
