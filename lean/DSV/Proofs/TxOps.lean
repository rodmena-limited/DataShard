import DSV.Model.TxOps
namespace DSV.TxOps

/-- the partition loop only extends its two accumulators, each by exactly the operations of its kind, in queue order -/
theorem foldl_stepPart (ops : List Op) (p : Parts) :
    (ops.foldl stepPart p).appends = p.appends ++ (ops.flatMap fun o => match o with | .appendFiles fs => fs | _ => []) ∧
    (ops.foldl stepPart p).deletes = p.deletes ++ (ops.flatMap fun o => match o with | .deleteFiles ps => ps | _ => []) := by
  induction ops generalizing p with
  | nil => exact ⟨(List.append_nil _).symm, (List.append_nil _).symm⟩
  | cons o os ih =>
    rw [List.foldl_cons, List.flatMap_cons, (ih _).1, (ih _).2]
    cases o with
    | appendFiles fs => exact ⟨List.append_assoc _ _ _, rfl⟩
    | deleteFiles ps => exact ⟨rfl, List.append_assoc _ _ _⟩
    | expire c => exact ⟨rfl, rfl⟩

end DSV.TxOps
