import DSV.Model.GcRace
import DSV.Proofs.Update
/-! Proofs behind `DSV/Props/C06.lean`. -/
namespace DSV.GcRace

theorem reach_run (mf : Bool) (u : List Nat) (files : Nat → Option FileSt) (committed : List Nat) (sched : List (Nat × Act)) :
    ∀ s s', Reach mf u files committed s → (∀ p ∈ sched, p.1 ≥ 1 ∧ ∀ f o, p.2 = .txMarker f o → f ∈ u) →
      run mf u s sched = some s' → Reach mf u files committed s' := by
  induction sched with
  | nil => intro s s' hr _ h; cases h; exact hr
  | cons p rest ih =>
    intro s s' hr hall h
    obtain ⟨a, act⟩ := p
    simp only [run] at h
    split at h
    · next s1 hstep =>
      have hp := hall (a, act) List.mem_cons_self
      exact ih s1 s' (.step a act hr hp.1 hp.2 hstep) (fun q hq => hall q (List.mem_cons_of_mem _ hq)) h
    · cases h

/-- a file the collector's age test lets through is not `Young` -/
def Young (st : FileSt) : Prop := st.oldAtStart = false ∨ st.bornInRun = true

/-- inductive invariant of the markers-first system. `GM`: once the markers are read as `p`, an existing file of a transaction is
committed, in `p` or young. Reading `committed` as `r` turns "committed" into "in `r`": that is `GD`, which also covers what is
committed later, since only owned files are. -/
structure Inv (u : List Nat) (s : Sys) : Prop where
  C : ∀ f ∈ s.committed, ∃ st, s.files f = some st ∧ st.exists_ = true ∧ (st.owner = 0 ∨ s.tx st.owner ≠ .active)
  Del : ∀ f ∈ s.deleted, s.files f = none
  M1 : ∀ f st, s.files f = some st → f ∈ u
  M2 : ∀ f st, s.files f = some st → st.owner ≥ 1 → s.tx st.owner = .active → st.marker = true
  M3 : ∀ f st, s.files f = some st → st.owner ≥ 1 → st.exists_ = true → s.tx st.owner ≠ .active → f ∈ s.committed
  R : s.gc = .start ∨ s.running = true
  GM : ∀ p, s.gc = .gotMarkers p → ∀ f st, s.files f = some st → st.exists_ = true → st.owner ≥ 1 →
        f ∈ s.committed ∨ f ∈ p ∨ Young st
  GD : ∀ r p, s.gc = .deleting r p → ∀ f st, s.files f = some st → st.exists_ = true → (f ∈ s.committed ∨ st.owner ≥ 1) →
        f ∈ r ∨ f ∈ p ∨ Young st

/-- What `Inv` asks of one file `f` with record `st`. It looks at the rest of the system only through the committed set, the
transactions' program counters and the collector's state, so a step that leaves those alone has to be checked at the files it
writes only. -/
structure FileOk (u committed : List Nat) (tx : Nat → TxPc) (gc : GcPc) (f : Nat) (st : FileSt) : Prop where
  C : f ∈ committed → st.exists_ = true ∧ (st.owner = 0 ∨ tx st.owner ≠ .active)
  M1 : f ∈ u
  M2 : st.owner ≥ 1 → tx st.owner = .active → st.marker = true
  M3 : st.owner ≥ 1 → st.exists_ = true → tx st.owner ≠ .active → f ∈ committed
  GM : ∀ p, gc = .gotMarkers p → st.exists_ = true → st.owner ≥ 1 → f ∈ committed ∨ f ∈ p ∨ Young st
  GD : ∀ r p, gc = .deleting r p → st.exists_ = true → (f ∈ committed ∨ st.owner ≥ 1) → f ∈ r ∨ f ∈ p ∨ Young st

theorem Inv.fileOk {u : List Nat} {s : Sys} (h : Inv u s) {f : Nat} {st : FileSt} (hf : s.files f = some st) :
    FileOk u s.committed s.tx s.gc f st := by
  refine ⟨fun hc => ?_, h.M1 f st hf, h.M2 f st hf, h.M3 f st hf, fun p hp => h.GM p hp f st hf, fun r p hp => h.GD r p hp f st hf⟩
  obtain ⟨st', e1, e2⟩ := h.C f hc
  rw [hf] at e1; cases e1; exact e2

theorem Inv.of_fileOk {u : List Nat} {s : Sys} (hc : ∀ f ∈ s.committed, ∃ st, s.files f = some st)
    (hd : ∀ f ∈ s.deleted, s.files f = none) (hr : s.gc = .start ∨ s.running = true)
    (hf : ∀ f st, s.files f = some st → FileOk u s.committed s.tx s.gc f st) : Inv u s := by
  refine ⟨fun f hfc => ?_, hd, fun f st h => (hf f st h).M1, fun f st h => (hf f st h).M2, fun f st h => (hf f st h).M3, hr,
    fun p hp f st h => (hf f st h).GM p hp, fun r p hp f st h => (hf f st h).GD r p hp⟩
  obtain ⟨st, hst⟩ := hc f hfc
  exact ⟨st, hst, (hf f st hst).C hfc⟩

theorem Inv.committed_some {u : List Nat} {s : Sys} (h : Inv u s) {f : Nat} (hf : f ∈ s.committed) : ∃ st, s.files f = some st :=
  (h.C f hf).imp fun _ hst => hst.1

theorem Inv.not_deleted {u : List Nat} {s : Sys} (h : Inv u s) {f : Nat} {st : FileSt} (hf : s.files f = some st) : f ∉ s.deleted :=
  fun hd => by rw [h.Del f hd] at hf; cases hf

theorem FileOk.congr {u c c' : List Nat} {tx tx' : Nat → TxPc} {gc : GcPc} {f : Nat} {st : FileSt} (h : FileOk u c tx gc f st)
    (ec : f ∈ c' ↔ f ∈ c) (e : tx' st.owner = .active ↔ tx st.owner = .active) : FileOk u c' tx' gc f st :=
  ⟨fun hc => ⟨(h.C (ec.1 hc)).1, (h.C (ec.1 hc)).2.imp_right (mt e.1)⟩, h.M1, fun ho ht => h.M2 ho (e.1 ht),
   fun ho he ht => ec.2 (h.M3 ho he (mt e.2 ht)), fun p hp he ho => (h.GM p hp he ho).imp_left ec.2,
   fun r p hp he hco => h.GD r p hp he (hco.imp_left ec.1)⟩

theorem setFile_ne {s : Sys} {f x : Nat} (v : Option FileSt) (e : x ≠ f) : (setFile s f v).files x = s.files x := if_neg e

theorem setTx_active {s : Sys} {a y : Nat} {p : TxPc} (hp : p ≠ .active) :
    (setTx s a p).tx y = .active ↔ y ≠ a ∧ s.tx y = .active := by
  by_cases e : y = a <;> simp [setTx, e, hp]

theorem Inv.with_used {u : List Nat} {s : Sys} (h : Inv u s) (l : List Nat) : Inv u { s with used := l } :=
  { h with }

theorem Inv.setFile_some {u : List Nat} {s : Sys} (h : Inv u s) {f : Nat} {v : FileSt} (hd : f ∉ s.deleted)
    (hv : FileOk u s.committed s.tx s.gc f v) : Inv u (setFile s f (some v)) :=
  .of_fileOk
    (forall_update (P := fun x o => x ∈ s.committed → ∃ st, o = some st) (fun _ _ => h.committed_some) fun _ => ⟨v, rfl⟩)
    (forall_update (P := fun x o => x ∈ s.deleted → o = none) (fun x _ => h.Del x) fun hx => absurd hx hd)
    h.R
    (forall_update (P := fun x o => ∀ st, o = some st → FileOk u s.committed s.tx s.gc x st) (fun _ _ _ => h.fileOk)
      fun _ e => Option.some.inj e ▸ hv)

/-- The records of the files in `P` disappear, none of them committed: nothing new is asked of those that stay. -/
theorem Inv.dropFiles {u : List Nat} {s : Sys} (h : Inv u s) (P : Nat → Prop) [DecidablePred P] {deleted : List Nat}
    (hc : ∀ x ∈ s.committed, ¬ P x) (hd : ∀ x ∈ deleted, P x ∨ x ∈ s.deleted) :
    Inv u { s with files := fun x => if P x then none else s.files x, deleted := deleted } := by
  refine .of_fileOk (fun x hx => ?_) (fun x hx => ?_) h.R fun x st hx => ?_
  · show ∃ st, (if P x then none else s.files x) = some st
    rw [if_neg (hc x hx)]; exact h.committed_some hx
  · show (if P x then none else s.files x) = none
    split
    · rfl
    · next hp => exact h.Del x ((hd x hx).resolve_left hp)
  · replace hx : (if P x then none else s.files x) = some st := hx
    split at hx
    · cases hx
    · exact h.fileOk hx

/-- Transaction `a` leaves `active`, and the committed set is from then on the old one plus every file `a` has written: both at
once, since `C` forbids the one and `M3` the other order. -/
theorem Inv.retire {u : List Nat} {s : Sys} (h : Inv u s) {a : Nat} (ha : a ≥ 1) {p : TxPc} (hp : p ≠ .active) {c : List Nat}
    (hc : ∀ x, x ∈ c ↔ x ∈ s.committed ∨ ∃ st, s.files x = some st ∧ st.owner = a ∧ st.exists_ = true) :
    Inv u { setTx s a p with committed := c } := by
  refine .of_fileOk (fun x hx => ?_) h.Del h.R fun x st hx => ?_
  · rcases (hc x).1 hx with hx | ⟨st, hst, -⟩
    · exact h.committed_some hx
    · exact ⟨st, hst⟩
  · replace hx : s.files x = some st := hx
    have h0 := h.fileOk hx
    have hmem : x ∈ c ↔ x ∈ s.committed ∨ (st.owner = a ∧ st.exists_ = true) := by simp [hc, hx]
    by_cases e : st.owner = a
    · have hna : (setTx s a p).tx st.owner ≠ .active := fun ht => ((setTx_active hp).1 ht).1 e
      refine ⟨fun hm => ⟨?_, .inr hna⟩, h0.M1, fun _ ht => absurd ht hna, fun _ he _ => hmem.2 (.inr ⟨e, he⟩),
        fun q hq he ho => (h0.GM q hq he ho).imp_left fun hm => hmem.2 (.inl hm),
        fun r q hq he _ => h0.GD r q hq he (.inr (e ▸ ha))⟩
      exact (hmem.1 hm).elim (fun hm => (h0.C hm).1) fun hm => hm.2
    · exact h0.congr (hmem.trans (or_iff_left fun hm => e hm.1)) ((setTx_active hp).trans (and_iff_right e))

theorem inv_init (u : List Nat) (files : Nat → Option FileSt) (committed : List Nat) (h0 : InitOk files committed u) :
    Inv u (init files committed) := by
  refine .of_fileOk h0.2 nofun (.inl rfl) fun f st hst => ?_
  -- no file is owned by a transaction yet, and the collector has not started
  obtain ⟨ho, -, he, -, hu⟩ := h0.1 f st hst
  have hno : ¬ st.owner ≥ 1 := ho ▸ Nat.not_succ_le_zero 0
  exact ⟨fun _ => ⟨he, .inl ho⟩, hu, fun h => absurd h hno, fun h => absurd h hno, nofun, nofun⟩

theorem inv_step (u : List Nat) (s s' : Sys) (a : Nat) (act : Act) (h : Inv u s) (ha : a ≥ 1)
    (hu : ∀ f o, act = .txMarker f o → f ∈ u) (hs : step true u s a act = some s') : Inv u s' := by
  revert hs hu
  -- one bullet per branch of `step` that returns a state, following the definition from top to bottom
  fun_cases step true u s a act <;> intro hu hs <;> cases hs
  -- txMarker
  · next f old hfn htx hc =>
    -- the new record does not exist yet, so nothing is asked of it but its marker
    refine (h.setFile_some (fun hm => hc (by simp [hm]))
      ⟨fun hm => ?_, hu f old rfl, fun _ _ => rfl, fun _ he => Bool.noConfusion he,
      fun _ _ he => Bool.noConfusion he, fun _ _ _ he => Bool.noConfusion he⟩).with_used _
    obtain ⟨st, e⟩ := h.committed_some hm
    rw [hfn] at e; cases e
  -- txWrite
  · next f st0 hfs htx hc =>
    obtain ⟨hc1, hc2, hc3⟩ := hc
    have h0 := h.fileOk hfs
    -- once the collector has started, the file written now (`bornInRun := s.running`) is young
    have hy : s.gc ≠ .start → Young { st0 with exists_ := true, bornInRun := s.running } :=
      fun hg => .inr (h.R.resolve_left hg)
    refine h.setFile_some (h.not_deleted hfs) ⟨?_, h0.M1, fun _ _ => hc2, ?_, ?_, ?_⟩
    · intro hm
      rw [(h0.C hm).1] at hc3; cases hc3
    · intro _ _ ht; exact absurd (hc1 ▸ htx) ht
    · intro p hp _ _; exact .inr (.inr (hy (by simp [hp])))
    · intro r p hp _ _; exact .inr (.inr (hy (by simp [hp])))
  -- txFlip
  · refine h.retire ha (by simp) fun x => ?_
    rw [List.mem_append, List.mem_filter, ownedBy]
    refine or_congr_right ?_
    cases hx : s.files x with
    | none => simp
    | some st => simpa using fun _ _ => h.M1 x st hx  -- `simp` leaves the filter's conjunct `x ∈ u` to be shown
  -- txUnmark
  · next f st0 hfs htx hc1 =>
    have h0 := h.fileOk hfs
    refine h.setFile_some (h.not_deleted hfs) ⟨h0.C, h0.M1, fun _ ht => ?_, h0.M3, h0.GM, h0.GD⟩
    rw [hc1, htx] at ht; cases ht
  -- txFinish
  · next htx =>
    refine .of_fileOk (fun x => h.committed_some) h.Del h.R fun x st hx => (h.fileOk hx).congr .rfl ?_
    exact (setTx_active (by simp)).trans (and_iff_right_of_imp fun ht e => by rw [e, htx] at ht; cases ht)
  -- txRollback
  · next htx =>
    -- the files of `a` go, none of them committed since `a` is active; then `a` leaves `active` with nothing to commit
    refine (h.dropFiles (ownedBy s a · = true) (fun x hx => ?_) fun x hx => .inr hx).retire ha (p := .rolledBack) (by simp)
      (c := s.committed) fun x => ⟨.inl, fun hx => hx.elim id ?_⟩
    · obtain ⟨st, e1, -, e3⟩ := h.C x hx
      have hne : st.owner ≠ a := by
        rintro rfl
        exact e3.elim (Nat.ne_of_gt ha) (· htx)
      simp [ownedBy, e1, hne]
    · rintro ⟨st, hst, rfl, -⟩
      replace hst : (if ownedBy s st.owner x then none else s.files x) = some st := hst
      split at hst
      · cases hst
      · next hno => exact absurd (by simp [ownedBy, hst]) hno
  -- gcReadMeta: the branch from `start` is the metadata-first order, which `true` switches off
  · next hf => exact absurd rfl hf
  · next p hgc _ =>
    refine ⟨h.C, h.Del, h.M1, h.M2, h.M3, .inr (h.R.resolve_left (by simp [hgc])), nofun, ?_⟩
    intro r p' hp' x st hx he hco
    cases hp'
    exact hco.elim .inl (h.GM p hgc x st hx he)
  -- gcReadMarkers: likewise only from `start`, not from `gotMeta`
  · refine ⟨h.C, h.Del, h.M1, h.M2, h.M3, .inr rfl, ?_, nofun⟩
    intro p' hp' x st hx he ho
    cases hp'
    -- an active owner's marker is in the snapshot just taken; any other owner has committed the file
    by_cases ht : s.tx st.owner = .active
    · exact .inr (.inl (List.mem_filter.2 ⟨h.M1 x st hx, by simp [show s.files x = some st from hx, h.M2 x st hx ho ht]⟩))
    · exact .inl (h.M3 x st hx ho he ht)
  · next hf => exact absurd rfl hf
  -- gcDelete
  · next f r p st0 hfs hgc hc =>
    simp only [Bool.and_eq_true, Bool.not_eq_true', List.contains_eq_mem, decide_eq_false_iff_not] at hc
    obtain ⟨⟨⟨⟨c1, c2⟩, c3⟩, c4⟩, c5⟩ := hc
    -- a committed file would be in one of the snapshots, or young
    have hnc : f ∉ s.committed := by
      intro hm
      rcases (h.fileOk hfs).GD r p hgc c1 (.inl hm) with hh | hh | hh | hh
      · exact c2 hh
      · exact c3 hh
      · rw [c4] at hh; cases hh
      · rw [c5] at hh; cases hh
    exact h.dropFiles (· = f) (fun x hx e => hnc (e ▸ hx)) fun x hx => List.mem_cons.1 hx
  -- the file fails one of the sweep's tests: the collector leaves it, and the state is unchanged
  · exact h
  -- gcFinish
  · next r p hgc =>
    exact ⟨h.C, h.Del, h.M1, h.M2, h.M3, .inr (h.R.resolve_left (by simp [hgc])), nofun, nofun⟩

theorem inv_reach (u : List Nat) (files : Nat → Option FileSt) (committed : List Nat)
    (h0 : InitOk files committed u) (s : Sys) (hr : Reach true u files committed s) : Inv u s := by
  induction hr with
  | init => exact inv_init u files committed h0
  | step a act _ ha hu hs ih => exact inv_step u _ _ a act ih ha hu hs

end DSV.GcRace
