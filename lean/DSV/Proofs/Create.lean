import DSV.Model.Create
import DSV.Proofs.Update
/-! Inversion lemmas for `step` and the invariants behind `DSV/Props/C18.lean`. -/
namespace DSV.Create

/-- every caller that has finished ended up on table `u` -/
def AllOn (s : Sys) (u : Nat) : Prop := ∀ a v, s.pc a = .done (some v) → v = u

@[simp] theorem setPc_pc (s : Sys) (a : Nat) (p : Pc) (x : Nat) :
    (setPc s a p).pc x = if x = a then p else s.pc x := rfl
@[simp] theorem setPc_files (s : Sys) (a : Nat) (p : Pc) : (setPc s a p).files = s.files := rfl
@[simp] theorem setPc_hint (s : Sys) (a : Nat) (p : Pc) : (setPc s a p).hint = s.hint := rfl
@[simp] theorem setPc_inits (s : Sys) (a : Nat) (p : Pc) : (setPc s a p).inits = s.inits := rfl
@[simp] theorem setPc_holder (s : Sys) (a : Nat) (p : Pc) : (setPc s a p).holder = s.holder := rfl
@[simp] theorem setPc_nextFid (s : Sys) (a : Nat) (p : Pc) : (setPc s a p).nextFid = s.nextFid := rfl

theorem releaseLock_eq (s : Sys) (a : Nat) :
    releaseLock s a = { s with holder := if s.holder = some a then none else s.holder } := by
  unfold releaseLock; split <;> rfl

theorem resolve_nil (s : Sys) (hf : s.files = []) : resolve s = none := by
  unfold resolve lookup; rw [hf]; cases s.hint <;> rfl

/-- with one file on storage every hint resolves to it: a hint that names it finds it, any other falls through to the scan -/
theorem resolve_single (s : Sys) (f : MFile) (hf : s.files = [f]) : resolve s = some f := by
  unfold resolve lookup; rw [hf]
  cases s.hint with
  | none => rfl
  | some g => simp only [List.find?_cons]; cases f.fid == g <;> rfl

theorem step_open {cfg : Cfg} {s s' : Sys} {a : Nat} (h : step cfg s a .open_ = some s') :
    s.pc a = .idle ∧
      ((∃ m, resolve s = some m ∧ s' = setPc s a (.done (some m.uuid))) ∨
       (resolve s = none ∧ (s' = setPc s a .wantInit ∨ s' = setPc s a (.done none)))) := by
  dsimp only [step] at h
  split at h
  · next hp =>
    refine ⟨hp, ?_⟩
    split at h
    · next m hm => cases h; exact .inl ⟨m, hm, rfl⟩
    · next hm =>
      refine .inr ⟨hm, ?_⟩
      split at h <;> cases h
      · exact .inl rfl
      · exact .inr rfl
  · cases h

theorem step_acquire {cfg : Cfg} {s s' : Sys} {a : Nat} (h : step cfg s a .acquire = some s') :
    s.pc a = .wantInit ∧
      ((cfg.exclusive = true ∧ s.holder = none ∧ s' = { setPc s a .locked with holder := some a }) ∨
       (cfg.exclusive = false ∧ s' = setPc s a .locked)) := by
  dsimp only [step] at h
  split at h
  · next hp =>
    refine ⟨hp, ?_⟩
    split at h
    · next hx =>
      split at h <;> cases h
      next hh => exact .inl ⟨hx, hh, rfl⟩
    · next hx => cases h; exact .inr ⟨by simpa using hx, rfl⟩
  · cases h

theorem step_check {cfg : Cfg} {s s' : Sys} {a : Nat} (h : step cfg s a .check = some s') :
    s.pc a = .locked ∧
      ((resolve s ≠ none ∧ s' = setPc s a (.lost none)) ∨ (resolve s = none ∧ s' = setPc s a .checked)) := by
  dsimp only [step] at h
  split at h
  · next hp =>
    refine ⟨hp, ?_⟩
    split at h <;> cases h
    · next m hm => exact .inl ⟨by simp [hm], rfl⟩
    · next hm => exact .inr ⟨hm, rfl⟩
  · cases h

theorem step_writeV0 {cfg : Cfg} {s s' : Sys} {a : Nat} (h : step cfg s a .writeV0 = some s') :
    s.pc a = .checked ∧
      s' = { setPc s a (.wrote ⟨s.nextFid, a, 0⟩) with files := ⟨s.nextFid, a, 0⟩ :: s.files, nextFid := s.nextFid + 1 } := by
  dsimp only [step] at h
  split at h
  · next hp => cases h; exact ⟨hp, rfl⟩
  · cases h

theorem step_flip {cfg : Cfg} {s s' : Sys} {a : Nat} (h : step cfg s a .flip = some s') :
    ∃ f, s.pc a = .wrote f ∧
      (((cfg.cas = true → s.hint = none) ∧
          s' = { setPc s a (.flipped f) with hint := some f.fid, inits := a :: s.inits }) ∨
       (cfg.cas = true ∧ s.hint ≠ none ∧ s' = { setPc s a (.lost (some f)) with files := s.files.filter (· != f) })) := by
  dsimp only [step] at h
  split at h
  · next f hp =>
    refine ⟨f, hp, ?_⟩
    split at h
    · next hc =>
      split at h <;> cases h
      · next hh => exact .inl ⟨fun _ => hh, rfl⟩
      · next hh => exact .inr ⟨hc, by simp [hh], rfl⟩
    · next hc => cases h; exact .inl ⟨fun h' => absurd h' hc, rfl⟩
  · cases h

theorem step_release {cfg : Cfg} {s s' : Sys} {a : Nat} (h : step cfg s a .release = some s') :
    ∃ p, s' = setPc { s with holder := if s.holder = some a then none else s.holder } a (.done p) ∧
      ((∃ f, s.pc a = .flipped f ∧ p = some f.uuid) ∨ (∃ o, s.pc a = .lost o ∧ p = (resolve s).map (·.uuid))) := by
  simp only [step, releaseLock_eq] at h
  split at h
  · next f hp => cases h; exact ⟨_, rfl, .inl ⟨f, hp, rfl⟩⟩
  · next o hp => cases h; exact ⟨_, rfl, .inr ⟨o, hp, rfl⟩⟩
  · cases h

theorem reach_run (cfg : Cfg) (files : List MFile) (hint : Option Nat) (creator : Nat → Bool) (sched : List (Nat × Act)) :
    ∀ s s', Reach cfg files hint creator s → run cfg s sched = some s' → Reach cfg files hint creator s' := by
  intro s
  fun_induction run cfg s sched with
  | case1 s => intro s' hr h; cases h; exact hr
  | case2 s a act rest s1 h1 ih => intro s' hr h; exact ih s' (.step a act hr h1) h
  | case3 => intro s' _ h; cases h

/-- behind `identity_preserved`: storage as it was found, the table still resolves, and callers are idle or on it -/
def IdInv (files : List MFile) (hint : Option Nat) (t : MFile) (s : Sys) : Prop :=
  s.files = files ∧ s.hint = hint ∧ s.inits = [] ∧ resolve s = some t ∧ ∀ a, s.pc a = .idle ∨ s.pc a = .done (some t.uuid)

/-- every `open_` finds the table, and no other action is ever enabled -/
theorem idInv_step {cfg : Cfg} {files : List MFile} {hint : Option Nat} {t : MFile} {s s' : Sys} {a : Nat} {act : Act}
    (inv : IdInv files hint t s) (hs : step cfg s a act = some s') : IdInv files hint t s' := by
  obtain ⟨hf, hh, hi, hres, hp⟩ := inv
  have hpa : ∀ p, s.pc a = p → p = .idle ∨ p = .done (some t.uuid) := fun p h => h ▸ hp a
  cases act with
  | open_ =>
    obtain ⟨_, ⟨m, hm, rfl⟩ | ⟨hn, _⟩⟩ := step_open hs
    · rw [hres] at hm; cases hm
      exact ⟨hf, hh, hi, hres,
        forall_update (P := fun _ (q : Pc) => q = .idle ∨ q = .done (some t.uuid)) (fun x _ => hp x) (.inr rfl)⟩
    · rw [hres] at hn; cases hn
  | acquire => exact nomatch hpa _ (step_acquire hs).1
  | check => exact nomatch hpa _ (step_check hs).1
  | writeV0 => exact nomatch hpa _ (step_writeV0 hs).1
  | flip => obtain ⟨f, hpc, _⟩ := step_flip hs; exact nomatch hpa _ hpc
  | release => obtain ⟨p, _, ⟨f, hpc, _⟩ | ⟨o, hpc, _⟩⟩ := step_release hs <;> exact nomatch hpa _ hpc

theorem idInv_reach {cfg : Cfg} {files : List MFile} {hint : Option Nat} {creator : Nat → Bool} {t : MFile} {s : Sys}
    (h0 : resolve (init files hint creator) = some t) (hr : Reach cfg files hint creator s) :
    IdInv files hint t s := by
  induction hr with
  | init => exact ⟨rfl, rfl, rfl, h0, fun _ => .inl rfl⟩
  | step a act _ hs ih => exact idInv_step ih hs

def InLock : Pc → Prop
  | .locked | .checked | .wrote _ | .flipped _ | .lost _ => True
  | _ => False

def LockInv (s : Sys) : Prop := ∀ a, InLock (s.pc a) → s.holder = some a

theorem other_not_inLock {s : Sys} (hl : LockInv s) {a : Nat} (ha : InLock (s.pc a)) (x : Nat) (hxa : x ≠ a) :
    ¬ InLock (s.pc x) := by
  intro h
  have h1 := hl x h
  rw [hl a ha] at h1
  exact hxa (Option.some.inj h1).symm

/-- storage under a lock that excludes: nothing yet; one initial version, not yet published; or published, by one
initialisation -/
def Store (s : Sys) : Prop :=
  (s.files = [] ∧ s.hint = none ∧ s.inits = []) ∨
  (∃ f, s.files = [f] ∧ s.hint = none ∧ s.inits = []) ∨
  (∃ f w, s.files = [f] ∧ s.hint = some f.fid ∧ s.inits = [w])

theorem Store.resolve_none {s : Sys} (h : Store s) (hr : resolve s = none) : s.files = [] ∧ s.hint = none ∧ s.inits = [] := by
  rcases h with h | ⟨f, hf, hh, _⟩ | ⟨f, w, hf, hh, _⟩
  · exact h
  · rw [resolve_single s f hf] at hr; cases hr
  · rw [resolve_single s f hf] at hr; cases hr

/-- what storage looks like while some actor is at `p`: the steps inside the lock see their own writes and nothing else,
and whoever finished on a table finished on the one that resolves now -/
def PcOk (s : Sys) : Pc → Prop
  | .checked => s.files = [] ∧ s.hint = none ∧ s.inits = []
  | .wrote f => s.files = [f] ∧ s.hint = none ∧ s.inits = []
  | .flipped f => s.files = [f] ∧ s.hint = some f.fid
  | .done (some v) => ∃ m, resolve s = some m ∧ v = m.uuid
  | _ => True

theorem PcOk.outside {s s' : Sys} {p : Pc} (h : PcOk s p) (hn : ¬ InLock p) (hr : ∀ m, resolve s = some m → resolve s' = some m) :
    PcOk s' p := by
  cases p with
  | done o =>
    cases o with
    | none => trivial
    | some v => obtain ⟨m, hm, hv⟩ := h; exact ⟨m, hr m hm, hv⟩
  | idle | wantInit => trivial
  | _ => exact absurd trivial hn

/-- behind `one_init`, for a lock that excludes -/
structure ExInv (s : Sys) : Prop where
  lock : LockInv s
  store : Store s
  pcs : ∀ x, PcOk s (s.pc x)

/-- a step that leaves storage alone: `a` moves to `p` and the lock goes to `h`, which stays with any other holder -/
theorem ExInv.frame {s : Sys} (inv : ExInv s) {a : Nat} {p : Pc} (h : Option Nat) (ha : InLock p → h = some a)
    (hx : ∀ x, x ≠ a → s.holder = some x → h = some x) (hp : PcOk s p) : ExInv (setPc { s with holder := h } a p) :=
  ⟨forall_update (P := fun x q => InLock q → h = some x) (fun x hxa hin => hx x hxa (inv.lock x hin)) ha, inv.store,
    forall_update (P := fun _ q => PcOk s q) (fun x _ => inv.pcs x) hp⟩

/-- a write inside the lock: nobody else is inside, so the others only need that a table that resolved still does -/
theorem ExInv.write {s s' : Sys} (inv : ExInv s) {a : Nat} {p : Pc} (ha : InLock (s.pc a)) (hpc : s'.pc = (setPc s a p).pc)
    (hh : s'.holder = s.holder) (hst : Store s') (hp : PcOk s' p) (hr : ∀ m, resolve s = some m → resolve s' = some m) :
    ExInv s' := by
  refine ⟨?_, hst, ?_⟩
  · rw [LockInv, hpc, hh]
    exact forall_update (P := fun x q => InLock q → s.holder = some x) (fun x _ => inv.lock x) fun _ => inv.lock a ha
  · rw [hpc]
    exact forall_update (P := fun _ q => PcOk s' q)
      (fun x hxa => (inv.pcs x).outside (other_not_inLock inv.lock ha x hxa) hr) hp

theorem exInv_step {cfg : Cfg} (hx : cfg.exclusive = true) {s s' : Sys} {a : Nat} {act : Act} (inv : ExInv s)
    (hs : step cfg s a act = some s') : ExInv s' := by
  have ⟨hl, hst, hp⟩ := inv
  have hpa := hp a
  cases act with
  | open_ =>
    obtain ⟨_, ⟨m, hm, rfl⟩ | ⟨_, rfl | rfl⟩⟩ := step_open hs
    · exact inv.frame s.holder (fun h => h.elim) (fun _ _ h => h) ⟨m, hm, rfl⟩
    · exact inv.frame s.holder (fun h => h.elim) (fun _ _ h => h) trivial
    · exact inv.frame s.holder (fun h => h.elim) (fun _ _ h => h) trivial
  | acquire =>
    obtain ⟨_, ⟨_, hnone, rfl⟩ | ⟨hne, _⟩⟩ := step_acquire hs
    · exact inv.frame (some a) (fun _ => rfl) (fun x _ h => by rw [hnone] at h; cases h) trivial
    · rw [hx] at hne; cases hne
  | check =>
    obtain ⟨hpc, ⟨_, rfl⟩ | ⟨hres, rfl⟩⟩ := step_check hs
    · exact inv.frame s.holder (fun _ => hl a (hpc ▸ trivial)) (fun _ _ h => h) trivial
    · exact inv.frame s.holder (fun _ => hl a (hpc ▸ trivial)) (fun _ _ h => h) (hst.resolve_none hres)
  | writeV0 =>
    obtain ⟨hpc, rfl⟩ := step_writeV0 hs
    rw [hpc] at hpa
    obtain ⟨hf, hh, hi⟩ := hpa
    refine inv.write (hpc ▸ trivial) rfl rfl (.inr (.inl ⟨_, congrArg (List.cons _) hf, hh, hi⟩))
      ⟨congrArg (List.cons _) hf, hh, hi⟩ fun m hm => ?_
    rw [resolve_nil s hf] at hm; cases hm
  | flip =>
    obtain ⟨f, hpc, hout⟩ := step_flip hs
    rw [hpc] at hpa
    obtain ⟨hf, hh, hi⟩ := hpa
    rcases hout with ⟨_, rfl⟩ | ⟨_, hne, _⟩
    · refine inv.write (hpc ▸ trivial) rfl rfl (.inr (.inr ⟨f, a, hf, rfl, congrArg (List.cons a) hi⟩)) ⟨hf, rfl⟩ fun m hm => ?_
      rw [resolve_single s f hf] at hm
      exact hm ▸ resolve_single _ f hf
    · exact absurd hh hne
  | release =>
    obtain ⟨p, rfl, hrel⟩ := step_release hs
    refine inv.frame _ (fun h => h.elim) (fun x hxa h => by simp [h, hxa]) ?_
    rcases hrel with ⟨f, hpc, rfl⟩ | ⟨o, _, rfl⟩
    · rw [hpc] at hpa
      exact ⟨f, resolve_single s f hpa.1, rfl⟩
    · cases hm : resolve s with
      | none => trivial
      | some m => exact ⟨m, hm, rfl⟩

theorem exInv_reach {cfg : Cfg} (hx : cfg.exclusive = true) {creator : Nat → Bool} {s : Sys}
    (hr : Reach cfg [] none creator s) : ExInv s := by
  induction hr with
  | init => exact ⟨fun a h => h.elim, .inl ⟨rfl, rfl, rfl⟩, fun _ => trivial⟩
  | step a act _ hs ih => exact exInv_step hx ih hs

theorem step_hint_cas {cfg : Cfg} (hc : cfg.cas = true) {s s' : Sys} {a : Nat} {act : Act}
    (hs : step cfg s a act = some s') :
    (s'.hint = s.hint ∧ s'.inits = s.inits) ∨ (s.hint = none ∧ ∃ f, s'.hint = some f ∧ s'.inits = a :: s.inits) := by
  cases act with
  | open_ => obtain ⟨_, ⟨m, _, rfl⟩ | ⟨_, rfl | rfl⟩⟩ := step_open hs <;> exact .inl ⟨rfl, rfl⟩
  | acquire => obtain ⟨_, ⟨_, _, rfl⟩ | ⟨_, rfl⟩⟩ := step_acquire hs <;> exact .inl ⟨rfl, rfl⟩
  | check => obtain ⟨_, ⟨_, rfl⟩ | ⟨_, rfl⟩⟩ := step_check hs <;> exact .inl ⟨rfl, rfl⟩
  | writeV0 => obtain ⟨_, rfl⟩ := step_writeV0 hs; exact .inl ⟨rfl, rfl⟩
  | flip =>
    obtain ⟨f, _, ⟨hn, rfl⟩ | ⟨_, _, rfl⟩⟩ := step_flip hs
    · exact .inr ⟨hn hc, f.fid, rfl, rfl⟩
    · exact .inl ⟨rfl, rfl⟩
  | release =>
    obtain ⟨p, rfl, _⟩ := step_release hs
    exact .inl ⟨rfl, rfl⟩

/-- behind `one_init_cas`: the pointer is there exactly when one initialisation took effect -/
def CasInv (s : Sys) : Prop := (s.hint = none ∧ s.inits = []) ∨ (∃ h w, s.hint = some h ∧ s.inits = [w])

theorem casInv_reach {cfg : Cfg} (hc : cfg.cas = true) {creator : Nat → Bool} {s : Sys}
    (hr : Reach cfg [] none creator s) : CasInv s := by
  induction hr with
  | init => exact Or.inl ⟨rfl, rfl⟩
  | @step s1 s2 a act _ hs ih =>
      rcases step_hint_cas hc hs with ⟨h1, h2⟩ | ⟨h1, f, h2, h3⟩
      · unfold CasInv; rw [h1, h2]; exact ih
      · rcases ih with ⟨_, hi⟩ | ⟨h, w, hh, _⟩
        · exact Or.inr ⟨f, a, h2, by rw [h3, hi]⟩
        · rw [hh] at h1; cases h1

end DSV.Create
