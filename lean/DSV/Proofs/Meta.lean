import DSV.Model.Meta
/-! The well-formedness predicate of table metadata, and the lemmas about the metadata algebra behind `DSV/Props/C15.lean` and
`DSV/Proofs/History.lean`.  `expire`, `retain` and `delSnap` all restrict the table to a kept set of snapshots, repoint parents and
filter the snapshot log: `wf_restrict` is the one argument for all three. -/
namespace DSV.Meta

/-- `a` is an ancestor-or-self of `d` following ORIGINAL (commit-time) parent links of the ghost history -/
inductive Anc (hist : List (Nat × P)) : Nat → Nat → Prop where
  | refl (d : Nat) : Anc hist d d
  | step {a p d : Nat} : (d, P.id p) ∈ hist → Anc hist a p → Anc hist a d

/-- reachability along CURRENT parent links of a snapshot list (dict semantics: last binding wins) -/
inductive Reach (all : List Snap) : P → P → Prop where
  | refl (p : P) : Reach all p p
  | step {n : Nat} {p : P} : Reach all (parentOf all n) p → Reach all (P.id n) p

/-- what `walk` may return for a survivor whose old parent is `start` -/
def Good (all : List Snap) (kept : List Nat) (start : P) : P → Prop
  | P.none => True
  | P.root => Reach all start P.root
  | P.id q => q ∈ kept ∧ Reach all start (P.id q)

structure WF (m : Meta) : Prop where
  idsNodup   : m.ids.Nodup
  curOk      : m.cur = P.root ∨ (m.cur = P.none ∧ m.snaps = []) ∨ ∃ s ∈ m.snaps, m.cur = P.id s.id
  parentOlder : ∀ s ∈ m.snaps, ∀ p, s.parent = P.id p → ∃ q ∈ m.snaps, q.id = p ∧ q.born < s.born
  parentsAnc : ∀ s ∈ m.snaps, ∀ p, s.parent = P.id p → Anc m.hist p s.id
  seqLe      : ∀ s ∈ m.snaps, s.seq ≤ m.lastSeq
  seqMono    : ∀ s ∈ m.snaps, ∀ t ∈ m.snaps, s.born < t.born → s.seq < t.seq
  bornLt     : ∀ s ∈ m.snaps, s.born < m.commits
  bornInj    : ∀ s ∈ m.snaps, ∀ t ∈ m.snaps, s.born = t.born → s = t
  logSub     : ∀ e ∈ m.log, ∃ s ∈ m.snaps, s.id = e.id ∧ s.born = e.born
  logOrder   : m.log.Pairwise (fun a b => a.born < b.born)
  histOk     : ∀ s ∈ m.snaps, (s.id, s.orig) ∈ m.hist
  curLogged  : ∀ s ∈ m.snaps, ∃ e ∈ m.log, e.id = s.id        -- every retained snapshot has its log entry

/-- preconditions the real system guarantees by construction: snapshot ids are fresh (random 63-bit ids) -/
def OpOk (m : Meta) : Op → Prop
  | .add _ id _ => id ∉ m.hist.map (·.1)
  | _ => True

instance (m : Meta) (op : Op) : Decidable (OpOk m op) := by
  cases op <;> unfold OpOk <;> infer_instance

def OpsOk : Meta → List Op → Prop
  | _, [] => True
  | m, op :: rest => OpOk m op ∧ OpsOk (step m op) rest

instance : (m : Meta) → (ops : List Op) → Decidable (OpsOk m ops)
  | _, [] => isTrue trivial
  | m, op :: rest => by
      unfold OpsOk
      have := instDecidableOpsOk (step m op) rest
      infer_instance

/-- commit timestamps are non-decreasing in commit order (equal allowed) -/
def TsMono (m : Meta) : Prop := ∀ s ∈ m.snaps, ∀ t ∈ m.snaps, s.born < t.born → s.ts ≤ t.ts

/-- the snapshot list is in commit order -/
def BornSorted (m : Meta) : Prop := m.snaps.Pairwise (fun a b => a.born < b.born)

/-- an operation whose timestamp is not older than any retained snapshot (non-decreasing clock; equal allowed) -/
def OpMono (m : Meta) : Op → Prop
  | .add now _ _ => ∀ s ∈ m.snaps, s.ts ≤ now
  | _ => True

theorem pairwise_concat {α : Type} {R : α → α → Prop} {l : List α} {a : α} :
    (l ++ [a]).Pairwise R ↔ l.Pairwise R ∧ ∀ b ∈ l, R b a := by
  rw [List.pairwise_append]
  exact ⟨fun h => ⟨h.1, fun b hb => h.2.2 b hb a (List.mem_singleton.2 rfl)⟩,
    fun h => ⟨h.1, List.pairwise_singleton _ _, fun b hb c hc => List.mem_singleton.1 hc ▸ h.2 b hb⟩⟩

theorem le_getLast? {α : Type} {f : α → Nat} {l : List α} (h : l.Pairwise fun a b => f a < f b) {a : α}
    (ha : l.getLast? = some a) : ∀ b ∈ l, f b ≤ f a := by
  obtain ⟨ys, rfl⟩ := List.getLast?_eq_some_iff.1 ha
  exact List.forall_mem_append.2 ⟨fun b hb => Nat.le_of_lt ((pairwise_concat.1 h).2 b hb),
    List.forall_mem_singleton.2 (Nat.le_refl _)⟩

theorem eq_of_id_eq {l : List Snap} (hnd : (l.map (·.id)).Nodup) {s t : Snap} (hs : s ∈ l) (ht : t ∈ l)
    (h : s.id = t.id) : s = t := by
  have hp : l.Pairwise fun a b => a.id ≠ b.id := List.pairwise_map.1 hnd
  -- two members are the same or stand in one of the two orders: `Pairwise` of a relation and of its flip give it for both
  exact List.Pairwise.forall_of_forall_of_flip (R := fun a b : Snap => a.id = b.id → a = b) (fun _ _ _ => rfl)
    (hp.imp fun hne e => absurd e hne) (hp.imp fun hne e => absurd e.symm hne) hs ht h

theorem find?_id {l : List Snap} (hnd : (l.map (·.id)).Nodup) {s : Snap} (hs : s ∈ l) :
    l.find? (fun x => x.id == s.id) = some s := by
  cases hf : l.find? (fun x => x.id == s.id) with
  | none => exact absurd (beq_self_eq_true _) (List.find?_eq_none.1 hf s hs)
  | some t => rw [eq_of_id_eq hnd (List.mem_of_find?_eq_some hf) hs (by simpa using List.find?_some hf)]

theorem parentOf_eq {all : List Snap} (hnd : (all.map (·.id)).Nodup) {s : Snap} (hs : s ∈ all) :
    parentOf all s.id = s.parent := by
  have hnd' : (all.reverse.map (·.id)).Nodup := ((List.reverse_perm all).map _).nodup_iff.2 hnd
  rw [parentOf, find?_id hnd' (List.mem_reverse.2 hs)]

theorem WF.cur_mem {m : Meta} (h : WF m) {c : Nat} (hc : m.cur = P.id c) : ∃ s ∈ m.snaps, s.id = c := by
  rcases h.curOk with e | ⟨e, -⟩ | ⟨s, hs, e⟩ <;> rw [hc] at e <;> cases e
  exact ⟨s, hs, rfl⟩

theorem Anc.trans {hist : List (Nat × P)} {a b c : Nat} (h1 : Anc hist a b) (h2 : Anc hist b c) : Anc hist a c := by
  induction h2 with
  | refl => exact h1
  | step hm _ ih => exact Anc.step hm ih

theorem Anc.mono {hist hist' : List (Nat × P)} (hsub : ∀ x ∈ hist, x ∈ hist') {a b : Nat} (h : Anc hist a b) :
    Anc hist' a b := by
  induction h with
  | refl => exact Anc.refl _
  | step hm _ ih => exact Anc.step (hsub _ hm) ih

theorem reach_none {all : List Snap} {y : P} (h : Reach all P.none y) : y = P.none := by
  cases h; rfl
theorem reach_root {all : List Snap} {y : P} (h : Reach all P.root y) : y = P.root := by
  cases h; rfl

/-- along current parent links of well-formed metadata, what is reachable from the parent of `sa` is a strictly older true
ancestor of `sa` -/
theorem reach_parent {m : Meta} (h : WF m) {x y : P} (hr : Reach m.snaps x y) :
    ∀ sa ∈ m.snaps, x = sa.parent → ∀ q, y = P.id q →
      ∃ sq ∈ m.snaps, sq.id = q ∧ sq.born < sa.born ∧ Anc m.hist q sa.id := by
  induction hr with
  | refl p =>
    intro sa hsa hx q hy
    obtain ⟨sq, hsq, hsqid, hsqb⟩ := h.parentOlder sa hsa q (hx ▸ hy)
    exact ⟨sq, hsq, hsqid, hsqb, h.parentsAnc sa hsa q (hx ▸ hy)⟩
  | @step n p _ ih =>
    intro sa hsa hx q hy
    obtain ⟨sp, hsp, rfl, hspb⟩ := h.parentOlder sa hsa n hx.symm
    obtain ⟨sq, hsq, hsqid, hsqb, hanc⟩ := ih sp hsp (parentOf_eq h.idsNodup hsp) q hy
    exact ⟨sq, hsq, hsqid, Nat.lt_trans hsqb hspb, hanc.trans (h.parentsAnc sa hsa sp.id hx.symm)⟩

theorem walk_sound (all : List Snap) (kept : List Nat) :
    ∀ (fuel : Nat) (start : P) (seen : List Nat), Good all kept start (walk all kept fuel start seen) := by
  intro fuel start seen
  fun_induction walk all kept fuel start seen with
  | case1 => trivial
  | case2 => exact Reach.refl _
  | case3 => trivial
  | case4 fuel p seen hk => exact ⟨List.contains_iff_mem.1 hk, Reach.refl _⟩
  | case5 => trivial
  | case6 fuel p seen hk hs ih =>
    -- what is reachable from the parent of `p` is reachable from `p`
    generalize walk all kept fuel (parentOf all p) (p :: seen) = r at ih ⊢
    cases r with
    | none => trivial
    | root => exact Reach.step ih
    | id q => exact ⟨ih.1, Reach.step ih.2⟩

/-- in well-formed metadata, whatever `walk` finds for a snapshot `o` is a kept, strictly older, true ancestor of `o` -/
theorem walk_older {m : Meta} (h : WF m) {kept : List Snap} (hsub : ∀ s ∈ kept, s ∈ m.snaps) {o : Snap} (ho : o ∈ m.snaps)
    {fuel : Nat} {seen : List Nat} {q : Nat} (hq : walk m.snaps (kept.map (·.id)) fuel o.parent seen = P.id q) :
    ∃ k ∈ kept, k.id = q ∧ k.born < o.born ∧ Anc m.hist q o.id := by
  have hg := walk_sound m.snaps (kept.map (·.id)) fuel o.parent seen
  rw [hq] at hg
  obtain ⟨k, hk, hkid⟩ := List.mem_map.1 hg.1
  obtain ⟨sq, hsq, hsqid, hsqb, hanc⟩ := reach_parent h hg.2 o ho rfl q rfl
  cases eq_of_id_eq h.idsNodup (hsub _ hk) hsq (by rw [hkid, hsqid])
  exact ⟨k, hk, hkid, hsqb, hanc⟩

/-- what a commit that supersedes metadata file `f` does to the metadata log: nothing when `f` is already the last entry,
else the superseded version is appended and the log trimmed to its newest `k` entries -/
theorem stamp_mlog (now f : Nat) (base new : Meta) (k : Int) (hk : new.prevMax = some k) (h1 : 1 ≤ k) :
    ((stamp now (some f) base new).mlog = new.mlog ∧ ∃ e, new.mlog.getLast? = some e ∧ (e.2 == f) = true) ∨
    (((stamp now (some f) base new).mlog.length : Int) ≤ k ∧
      (stamp now (some f) base new).mlog <:+ (new.mlog ++ [(base.lastUpdated, f)])) := by
  have trim : ∀ l : List (Nat × Nat),
      (((if k ≥ 1 ∧ (l.length : Int) > k then l.drop (l.length - k.toNat) else l).length : Int) ≤ k) ∧
      (if k ≥ 1 ∧ (l.length : Int) > k then l.drop (l.length - k.toNat) else l) <:+ l := by
    intro l
    by_cases hl : (l.length : Int) > k
    · rw [if_pos ⟨h1, hl⟩]
      refine ⟨?_, List.drop_suffix _ _⟩
      -- exactly the newest `k` entries are kept
      rw [List.length_drop, Nat.sub_sub_self (Int.toNat_le.2 (Int.le_of_lt hl)),
        Int.toNat_of_nonneg (Int.le_trans (by decide) h1)]
      exact Int.le_refl _
    · rw [if_neg fun h => hl h.2]
      exact ⟨Int.not_lt.1 hl, List.suffix_refl _⟩
  cases hg : new.mlog.getLast? with
  | none =>
    simp only [stamp, hk, hg]
    exact Or.inr (trim _)
  | some e =>
    simp only [stamp, hk, hg]
    by_cases he : (e.2 == f) = true
    · rw [if_pos he]; exact Or.inl ⟨rfl, e, rfl, he⟩
    · rw [if_neg he]; exact Or.inr (trim _)

theorem rewrite_cases (es : List Entry) (deleted : List Nat) :
    (es.filter (fun e => !deleted.contains e.file) = es ∧ rewrite es deleted = some (true, es)) ∨
    (es.filter (fun e => !deleted.contains e.file) = [] ∧ rewrite es deleted = none) ∨
    rewrite es deleted =
      some (false, (es.filter fun e => !deleted.contains e.file).map fun e => { e with status := 0 }) := by
  unfold rewrite
  simp only []
  split
  · rename_i hl
    exact Or.inl ⟨List.filter_eq_self.2 (List.length_filter_eq_length_iff.1 (beq_iff_eq.1 hl)), rfl⟩
  · split
    · rename_i he
      exact Or.inr (Or.inl ⟨List.isEmpty_iff.1 he, rfl⟩)
    · exact Or.inr (Or.inr rfl)


theorem repoint_ids (all kept : List Snap) : (repoint all kept).map (·.id) = kept.map (·.id) := by
  simp [repoint]

theorem mem_repoint {all kept : List Snap} {s : Snap} :
    s ∈ repoint all kept ↔
      ∃ o ∈ kept, s = { o with parent := walk all (kept.map (·.id)) (all.length + 1) o.parent [] } := by
  simp [repoint, eq_comm]

theorem repoint_ids_sub {all kept : List Snap} (hsub : kept ⊆ all) : (repoint all kept).map (·.id) ⊆ all.map (·.id) := by
  rw [repoint_ids]; exact List.map_subset _ hsub

/-- Well-formed metadata restricted to `kept` — the snapshots whose id satisfies `q`, in any order — with parents repointed
and the log filtered by `q` is well-formed, for every current pointer that is admissible for the result. -/
theorem wf_restrict {m : Meta} (h : WF m) {kept : List Snap} {q : Nat → Bool} {c : P}
    (hnd : (kept.map (·.id)).Nodup) (hmem : ∀ s, s ∈ kept ↔ s ∈ m.snaps ∧ q s.id = true)
    (hc : c = P.root ∨ (c = P.none ∧ repoint m.snaps kept = []) ∨ ∃ s ∈ repoint m.snaps kept, c = P.id s.id) :
    WF { m with snaps := repoint m.snaps kept, log := m.log.filter fun e => q e.id, cur := c } := by
  have hsub : ∀ s ∈ kept, s ∈ m.snaps := fun s hs => ((hmem s).1 hs).1
  have older := fun o (ho : o ∈ kept) p (hp : walk m.snaps (kept.map (·.id)) (m.snaps.length + 1) o.parent [] = P.id p) =>
    walk_older h hsub (hsub o ho) hp
  -- every snapshot of the result is a kept one with a new parent: all other fields are those of `m`
  have each : ∀ {C : Snap → Prop},
      (∀ o ∈ kept, C { o with parent := walk m.snaps (kept.map (·.id)) (m.snaps.length + 1) o.parent [] }) →
      ∀ s ∈ repoint m.snaps kept, C s := by
    intro C hC s hs
    obtain ⟨o, ho, rfl⟩ := mem_repoint.1 hs
    exact hC o ho
  constructor
  case idsNodup =>
    show ((repoint m.snaps kept).map (·.id)).Nodup
    rw [repoint_ids]; exact hnd
  case curOk => exact hc
  case parentOlder =>
    refine each fun o ho p hp => ?_
    obtain ⟨k, hk, hkid, hkb, -⟩ := older o ho p hp
    exact ⟨_, mem_repoint.2 ⟨k, hk, rfl⟩, hkid, hkb⟩
  case parentsAnc =>
    refine each fun o ho p hp => ?_
    obtain ⟨k, -, -, -, hanc⟩ := older o ho p hp
    exact hanc
  case seqLe => exact each fun o ho => h.seqLe o (hsub o ho)
  case seqMono => exact each fun o ho => each fun o' ho' => h.seqMono o (hsub o ho) o' (hsub o' ho')
  case bornLt => exact each fun o ho => h.bornLt o (hsub o ho)
  case bornInj =>
    refine each fun o ho => each fun o' ho' hst => ?_
    cases h.bornInj o (hsub o ho) o' (hsub o' ho') hst
    rfl
  case logSub =>
    intro e he
    obtain ⟨he1, he2⟩ := List.mem_filter.1 he
    obtain ⟨s, hs, hsid, hsb⟩ := h.logSub e he1
    exact ⟨_, mem_repoint.2 ⟨s, (hmem s).2 ⟨hs, hsid ▸ he2⟩, rfl⟩, hsid, hsb⟩
  case logOrder => exact h.logOrder.sublist List.filter_sublist
  case histOk => exact each fun o ho => h.histOk o (hsub o ho)
  case curLogged =>
    refine each fun o ho => ?_
    obtain ⟨e, he, heid⟩ := h.curLogged o (hsub o ho)
    exact ⟨e, List.mem_filter.2 ⟨he, by rw [heid]; exact ((hmem o).1 ho).2⟩, heid⟩

theorem wf_restrict_cur {m : Meta} (h : WF m) {kept : List Snap} {q : Nat → Bool}
    (hnd : (kept.map (·.id)).Nodup) (hmem : ∀ s, s ∈ kept ↔ s ∈ m.snaps ∧ q s.id = true)
    (hcur : ∀ s ∈ m.snaps, m.cur = P.id s.id → q s.id = true) :
    WF { m with snaps := repoint m.snaps kept, log := m.log.filter fun e => q e.id } := by
  refine wf_restrict h hnd hmem (h.curOk.imp id (Or.imp ?_ ?_))
  · rintro ⟨hc, hnil⟩
    have : kept = [] := List.eq_nil_of_subset_nil (hnil ▸ fun s hs => ((hmem s).1 hs).1)
    exact ⟨hc, by rw [this]; rfl⟩
  · rintro ⟨s, hs, hc⟩
    exact ⟨_, mem_repoint.2 ⟨s, (hmem s).2 ⟨hs, hcur s hs hc⟩, rfl⟩, hc⟩

theorem mem_expire_ids {c : Nat} {m : Meta} {x : Nat} :
    x ∈ (expire c m).ids ↔ ∃ s ∈ m.snaps, s.id = x ∧ (s.ts ≥ c ∨ P.id s.id = m.cur) := by
  simp only [expire, Meta.ids, repoint_ids, List.mem_map, List.mem_filter, Bool.or_eq_true, decide_eq_true_eq, beq_iff_eq]
  exact ⟨fun ⟨s, ⟨hs, hk⟩, e⟩ => ⟨s, hs, e, hk⟩, fun ⟨s, hs, e, hk⟩ => ⟨s, ⟨hs, hk⟩, e⟩⟩

theorem expire_ids_sub (c : Nat) (m : Meta) : (expire c m).ids ⊆ m.ids :=
  repoint_ids_sub List.filter_sublist.subset

theorem wf_expire (c : Nat) (m : Meta) (h : WF m) : WF (expire c m) := by
  let kept := m.snaps.filter fun s => decide (s.ts ≥ c) || (P.id s.id == m.cur)
  -- `expire` filters the log by the ids of `kept`, not by the expiry test: that is the `q`; ids being distinct, it selects `kept`
  have hsubl : kept.Sublist m.snaps := List.filter_sublist
  refine wf_restrict_cur h (kept := kept) (q := (kept.map (·.id)).contains) ((hsubl.map _).nodup h.idsNodup) ?_ ?_
  · intro s
    simp only [List.contains_eq_mem, decide_eq_true_eq]
    refine ⟨fun hs => ⟨hsubl.subset hs, List.mem_map.2 ⟨s, hs, rfl⟩⟩, fun ⟨hs, hid⟩ => ?_⟩
    obtain ⟨s', hs', e⟩ := List.mem_map.1 hid
    rwa [← eq_of_id_eq h.idsNodup (hsubl.subset hs') hs e]
  · intro s hs hc
    simp only [List.contains_eq_mem, decide_eq_true_eq]
    exact List.mem_map.2 ⟨s, List.mem_filter.2 ⟨hs, by simp [hc]⟩, rfl⟩

theorem retain_cases (m : Meta) :
    retain m = m ∨ ∃ ids : List Nat, (∀ s ∈ m.snaps, m.cur = P.id s.id → ids.contains s.id = true) ∧
      retain m = { m with snaps := repoint m.snaps ((sortByTs m.snaps).filter fun s => ids.contains s.id),
                          log := m.log.filter fun e => ids.contains e.id } := by
  unfold retain
  cases m.retention with
  | none => exact Or.inl rfl
  | some k =>
    by_cases hk : k < 1 ∨ (m.snaps.length : Int) ≤ k
    · exact Or.inl (if_pos hk)
    · refine Or.inr ⟨_, fun s hs hc => ?_, if_neg hk⟩
      -- the id list: the `k` newest, plus the current snapshot if it is a snapshot of the table
      rw [hc]
      simp only
      split
      · assumption
      · split
        · exact List.contains_iff_mem.2 List.mem_concat_self
        · rename_i hnone
          exact absurd (beq_self_eq_true _) (List.find?_eq_none.1 hnone s hs)

theorem sortByTs_perm (l : List Snap) : (sortByTs l).Perm l := List.mergeSort_perm _ _

theorem retain_ids_sub (m : Meta) : (retain m).ids ⊆ m.ids := by
  rcases retain_cases m with e | ⟨ids, -, e⟩ <;> rw [e]
  · exact fun _ h => h
  · exact repoint_ids_sub (List.Subset.trans List.filter_sublist.subset (sortByTs_perm _).subset)

theorem retain_fields (m : Meta) :
    (retain m).cur = m.cur ∧ (retain m).lastSeq = m.lastSeq ∧ (retain m).hist = m.hist := by
  rcases retain_cases m with e | ⟨_, -, e⟩ <;> rw [e] <;> exact ⟨rfl, rfl, rfl⟩

theorem wf_retain (m : Meta) (h : WF m) : WF (retain m) := by
  rcases retain_cases m with e | ⟨ids, hcur, e⟩ <;> rw [e]
  · exact h
  · refine wf_restrict_cur h (q := ids.contains)
      ((List.filter_sublist.map _).nodup (((sortByTs_perm _).map _).nodup_iff.2 h.idsNodup)) (fun s => ?_) hcur
    rw [List.mem_filter, (sortByTs_perm _).mem_iff]

theorem mostRecent_spec (m : Meta) (h : WF m) :
    (m.snaps = [] ∧ mostRecent m = P.none) ∨
    (∃ r ∈ m.snaps, mostRecent m = P.id r.id ∧ ∀ s ∈ m.snaps, s.born ≤ r.born) := by
  cases he : m.log.getLast? with
  | none =>
    have hnil : m.snaps = [] := List.eq_nil_iff_forall_not_mem.2 fun s hs =>
      have ⟨e, hel, _⟩ := h.curLogged s hs
      List.not_mem_nil (List.getLast?_eq_none_iff.1 he ▸ hel)
    exact Or.inl ⟨hnil, by simp [mostRecent, hnil]⟩
  | some e =>
    -- the last log entry names a retained snapshot, so the search from the end stops there
    obtain ⟨r, hr, hrid, hrb⟩ := h.logSub e (List.mem_of_getLast? he)
    refine Or.inr ⟨r, hr, ?_, fun s hs => ?_⟩
    · obtain ⟨ys, hys⟩ := List.getLast?_eq_some_iff.1 he
      have : e.id ∈ m.ids := List.mem_map.2 ⟨r, hr, hrid⟩
      simp [mostRecent, List.ne_nil_of_mem hr, hys, this, hrid]
    · obtain ⟨es, hes, hesid⟩ := h.curLogged s hs
      obtain ⟨s', hs', hs'id, hs'b⟩ := h.logSub es hes
      cases eq_of_id_eq h.idsNodup hs' hs (by rw [hs'id, hesid])
      rw [hs'b, hrb]
      exact le_getLast? h.logOrder he es hes

theorem mem_eraseP_id {l : List Snap} (hnd : (l.map (·.id)).Nodup) (i : Nat) {s : Snap} :
    s ∈ l.eraseP (fun x => x.id == i) ↔ s ∈ l ∧ s.id ≠ i := by
  refine ⟨fun hs => ⟨List.eraseP_sublist.subset hs, ?_⟩, fun ⟨hs, hne⟩ => (List.mem_eraseP_of_neg (by simpa using hne)).2 hs⟩
  -- the ids of the result are the (distinct) ids with `i` erased
  have : s.id ∈ (l.map (·.id)).erase i := by
    rw [List.erase_eq_eraseP', List.eraseP_map]
    exact List.mem_map.2 ⟨s, hs, rfl⟩
  exact (hnd.mem_erase_iff.1 this).1

/-- the `m1` of `delSnap`: the table before the current pointer is fixed up, with `eraseP` for the model's `findIdx?` and
`eraseIdx`. `delSnap_eq` is the tie to the model. -/
def delRaw (id : Nat) (m : Meta) : Meta :=
  { m with snaps := repoint m.snaps (m.snaps.eraseP (fun x => x.id == id)),
           log := m.log.filter (fun e => e.id != id) }

theorem delSnap_eq {id : Nat} {m m' : Meta} (hd : delSnap id m = some m') :
    m' = (if (delRaw id m).cur == P.id id then { delRaw id m with cur := mostRecent (delRaw id m) }
          else delRaw id m) := by
  unfold delRaw
  unfold delSnap at hd
  split at hd
  · cases hd
  · rename_i i hi
    rw [List.eraseP_eq_eraseIdx, hi]
    exact (Option.some.inj hd).symm

theorem delSnap_keeps {id : Nat} {m m' : Meta} (hd : delSnap id m = some m') :
    m'.ids ⊆ m.ids ∧ m'.hist = m.hist ∧ m'.lastSeq = m.lastSeq := by
  rw [delSnap_eq hd]
  split <;> exact ⟨repoint_ids_sub List.eraseP_sublist.subset, rfl, rfl⟩

theorem wf_delSnap {id : Nat} {m m' : Meta} (h : WF m) (hd : delSnap id m = some m') : WF m' := by
  rw [delSnap_eq hd]
  have hnd : ((m.snaps.eraseP fun x => x.id == id).map (·.id)).Nodup := (List.eraseP_sublist.map _).nodup h.idsNodup
  have hmem : ∀ s, s ∈ m.snaps.eraseP (fun x => x.id == id) ↔ s ∈ m.snaps ∧ (s.id != id) = true := fun s => by
    rw [mem_eraseP_id h.idsNodup, bne_iff_ne]
  split
  · refine wf_restrict h (q := (· != id)) hnd hmem (Or.inr ?_)
    -- `mostRecent` does not read `cur`: its value is that of the restriction under any admissible pointer, here `P.root`
    rcases mostRecent_spec _ (wf_restrict h (q := (· != id)) (c := P.root) hnd hmem (Or.inl rfl)) with
      ⟨h1, h2⟩ | ⟨r, hr, hrc, -⟩
    · exact Or.inl ⟨h2, h1⟩
    · exact Or.inr ⟨r, hr, hrc⟩
  · rename_i hcne
    exact wf_restrict_cur h (q := (· != id)) hnd hmem fun s _ hc => bne_iff_ne.2 fun e => hcne (beq_iff_eq.2 (e ▸ hc))

theorem delSnap_current {m m' : Meta} (h : WF m) {i : Nat} (hc : m.cur = P.id i) (hd : delSnap i m = some m') :
    (m'.snaps = [] ∧ m'.cur = P.none) ∨
    (∃ r ∈ m'.snaps, m'.cur = P.id r.id ∧ ∀ s ∈ m'.snaps, s.born ≤ r.born) := by
  have hwf := wf_delSnap h hd
  rw [delSnap_eq hd] at hwf ⊢
  have hcur : ((delRaw i m).cur == P.id i) = true := beq_iff_eq.2 hc
  rw [if_pos hcur] at hwf ⊢
  exact mostRecent_spec _ hwf

/-- the `s` of `addSnap`, as `addRaw` below is its `m1`; `addSnap_cases` is the tie of both to the model -/
def newSnap (now id : Nat) (base : Meta) : Snap :=
  let parent := match base.cur with | P.none => P.root | c => c
  { id := id, ts := now, seq := base.lastSeq + 1, parent := parent, born := base.commits, orig := parent }

/-- the metadata right after appending the new snapshot (before expiry / retention) -/
def addRaw (now id : Nat) (base : Meta) : Meta :=
  { base with snaps := base.snaps ++ [newSnap now id base], cur := P.id id, lastSeq := max base.lastSeq (base.lastSeq + 1),
              log := base.log ++ [⟨now, id, base.commits⟩], commits := base.commits + 1,
              hist := base.hist ++ [(id, (newSnap now id base).parent)] }

theorem addSnap_cases (now id : Nat) (cutoff : Option Nat) (m : Meta) :
    addSnap now id cutoff m = .error .mutatorRemovedSnapshot ∨
    addSnap now id cutoff m =
      .ok (retain (match cutoff with | some c => expire c (addRaw now id m) | Option.none => addRaw now id m)) := by
  have key : ∀ (b : Bool) (x : Meta),
      (if b = true then Except.error Err.mutatorRemovedSnapshot else Except.ok x : Except Err Meta) = .error .mutatorRemovedSnapshot ∨
      (if b = true then Except.error Err.mutatorRemovedSnapshot else Except.ok x : Except Err Meta) = .ok x := by
    intro b x; cases b <;> simp
  -- by unfolding, `addSnap` is such an `if` whose `x` is written with `newSnap` and `addRaw`
  exact key _ _

/-- a step is made of `addRaw`, `expire`, `retain`, `delSnap` and the two property setters: what all of these carry along
from `m` holds after the step -/
theorem step_preserves {C : Meta → Prop} {m : Meta} (h : C m) (op : Op)
    (hadd : ∀ now id cutoff, op = .add now id cutoff → C (addRaw now id m))
    (hexp : ∀ c m', C m' → C (expire c m')) (hret : ∀ m', C m' → C (retain m'))
    (hdel : ∀ id m', delSnap id m = some m' → C m')
    (hsetr : ∀ r, C (setRetention r m)) (hsetp : ∀ r, C (setPrevMax r m)) : C (step m op) := by
  cases op with
  | add now id cutoff =>
    simp only [step]
    rcases addSnap_cases now id cutoff m with e | e <;> rw [e]
    · exact h
    · cases cutoff with
      | none => exact hret _ (hadd now id none rfl)
      | some c => exact hret _ (hexp c _ (hadd now id (some c) rfl))
  | expireOnly c => exact hexp c m h
  | del id =>
    simp only [step]
    cases hd : delSnap id m with
    | none => exact h
    | some m' => exact hdel id m' hd
  | setRetention r => exact hsetr r
  | setPrevMax r => exact hsetp r

theorem addRaw_ids (now id : Nat) (m : Meta) : (addRaw now id m).ids = m.ids ++ [id] :=
  List.map_append

/-- a successful `addSnap` is the committed step; it records `id` in the ghost history and retains old snapshots or `id` -/
theorem addSnap_ok {now id : Nat} {cutoff : Option Nat} {m m' : Meta} (h : addSnap now id cutoff m = .ok m') :
    m' = step m (.add now id cutoff) ∧ m'.hist.map (·.1) = m.hist.map (·.1) ++ [id] ∧ m'.ids ⊆ m.ids ++ [id] := by
  refine ⟨by rw [step, h], ?_⟩
  rcases addSnap_cases now id cutoff m with e | e <;> rw [e] at h <;> cases h
  rw [(retain_fields _).2.2, ← addRaw_ids now]
  cases cutoff with
  | none => exact ⟨List.map_append, retain_ids_sub _⟩
  | some c => exact ⟨List.map_append, List.Subset.trans (retain_ids_sub _) (expire_ids_sub c _)⟩

theorem wf_addRaw (now id : Nat) (m : Meta) (h : WF m) (hid : id ∉ m.hist.map (·.1)) : WF (addRaw now id m) := by
  -- every snapshot of the result is an old one or the new one
  have split : ∀ {C : Snap → Prop}, (∀ s ∈ m.snaps, C s) → C (newSnap now id m) → ∀ s ∈ (addRaw now id m).snaps, C s := by
    intro C hold hnew s hs
    rcases List.mem_append.1 hs with hs | hs
    · exact hold s hs
    · rw [List.mem_singleton.1 hs]; exact hnew
  have old : ∀ {s}, s ∈ m.snaps → s ∈ (addRaw now id m).snaps := List.mem_append_left _
  constructor
  case idsNodup =>
    rw [addRaw_ids]
    refine pairwise_concat.2 ⟨h.idsNodup, fun b hb e => ?_⟩
    obtain ⟨s, hs, rfl⟩ := List.mem_map.1 hb
    exact hid (List.mem_map.2 ⟨_, h.histOk s hs, e⟩)
  case curOk => exact Or.inr (Or.inr ⟨_, List.mem_concat_self, rfl⟩)
  case parentOlder =>
    refine split (fun s hs p hp => ?_) (fun p hp => ?_)
    · exact (h.parentOlder s hs p hp).imp fun q hq => ⟨old hq.1, hq.2⟩
    · -- the new snapshot's parent is the old current snapshot
      simp only [newSnap] at hp
      cases hc : m.cur <;> rw [hc] at hp <;> cases hp
      obtain ⟨s, hs, rfl⟩ := h.cur_mem hc
      exact ⟨s, old hs, rfl, h.bornLt s hs⟩
  case parentsAnc =>
    refine split (fun s hs p hp => ?_) (fun p hp => ?_)
    · exact (h.parentsAnc s hs p hp).mono fun x hx => List.mem_append_left _ hx
    · exact Anc.step (p := p) (List.mem_append_right _ (List.mem_singleton.2 (by rw [hp]; rfl))) (Anc.refl _)
  case seqLe => exact split (fun s hs => Nat.le_trans (h.seqLe s hs) (Nat.le_max_left _ _)) (Nat.le_max_right _ _)
  case seqMono =>
    exact split (fun s hs => split (h.seqMono s hs) fun _ => Nat.lt_succ_of_le (h.seqLe s hs))
      (split (fun t ht hst => absurd hst (Nat.lt_asymm (h.bornLt t ht))) fun hst => absurd hst (Nat.lt_irrefl _))
  case bornLt => exact split (fun s hs => Nat.lt_succ_of_lt (h.bornLt s hs)) (Nat.lt_succ_self _)
  case bornInj =>
    exact split (fun s hs => split (h.bornInj s hs) fun hst => absurd hst (Nat.ne_of_lt (h.bornLt s hs)))
      (split (fun t ht hst => absurd hst.symm (Nat.ne_of_lt (h.bornLt t ht))) fun _ => rfl)
  case logSub =>
    intro e he
    rcases List.mem_append.1 he with he | he
    · exact (h.logSub e he).imp fun s hs => ⟨old hs.1, hs.2⟩
    · rw [List.mem_singleton.1 he]
      exact ⟨_, List.mem_concat_self, rfl, rfl⟩
  case logOrder =>
    refine pairwise_concat.2 ⟨h.logOrder, fun a ha => ?_⟩
    obtain ⟨s, hs, -, h2⟩ := h.logSub a ha
    exact h2 ▸ h.bornLt s hs
  case histOk => exact split (fun s hs => List.mem_append_left _ (h.histOk s hs)) List.mem_concat_self
  case curLogged =>
    exact split (fun s hs => (h.curLogged s hs).imp fun e he => ⟨List.mem_append_left _ he.1, he.2⟩)
      ⟨_, List.mem_concat_self, rfl⟩

/-- C15's `wf_step`, here because `DSV/Proofs/History.lean` needs it too and proof modules do not import property files -/
theorem step_wf (m : Meta) (op : Op) (h : WF m) (hop : OpOk m op) : WF (step m op) :=
  step_preserves h op
    (hadd := fun now id _ e => wf_addRaw now id m h (by subst e; exact hop))
    (hexp := fun c _ => wf_expire c _) (hret := wf_retain) (hdel := fun _ _ => wf_delSnap h)
    (hsetr := fun _ => { h with }) (hsetp := fun _ => { h with })

theorem empty_wf : WF empty := by
  -- no snapshot and no log entry: every field but `curOk` speaks of the members of an empty list
  constructor <;> first
    | exact Or.inl rfl
    | exact List.Pairwise.nil
    | exact fun _ hx => (List.not_mem_nil hx).elim

/-- the list is in commit order and timestamps do not decrease along it: `BornSorted` and `TsMono` together -/
def Chrono (l : List Snap) : Prop := l.Pairwise fun a b => a.born < b.born ∧ a.ts ≤ b.ts

theorem chrono_iff {m : Meta} : Chrono m.snaps ↔ BornSorted m ∧ TsMono m := by
  constructor
  · intro h
    -- `s` may stand after `t` in the list (as in `eq_of_id_eq`): then `s.born < t.born` is absurd
    exact ⟨h.imp And.left, fun s hs t ht =>
      List.Pairwise.forall_of_forall_of_flip (R := fun a b : Snap => a.born < b.born → a.ts ≤ b.ts)
        (fun _ _ hlt => absurd hlt (Nat.lt_irrefl _)) (h.imp fun h _ => h.2)
        (h.imp fun h hlt => absurd hlt (Nat.lt_asymm h.1)) hs ht⟩
  · rintro ⟨hb, ht⟩
    exact hb.imp_of_mem fun ha hb' hab => ⟨hab, ht _ ha _ hb' hab⟩

theorem chrono_restrict {all l kept : List Snap} (h : Chrono l) (hs : kept.Sublist l) : Chrono (repoint all kept) :=
  List.pairwise_map.2 (h.sublist hs)

theorem sortByTs_eq {l : List Snap} (h : Chrono l) : sortByTs l = l :=
  List.mergeSort_of_pairwise (h.imp fun h => by simpa using h.2)

theorem step_mono (m : Meta) (op : Op) (h : WF m) (hc : Chrono m.snaps) (hm : OpMono m op) : Chrono (step m op).snaps := by
  refine step_preserves (C := fun m => Chrono m.snaps) hc op
    (hadd := fun now id _ e => ?_) (hexp := fun c m hc => chrono_restrict hc List.filter_sublist)
    (hret := fun m hc => ?_) (hdel := fun id m' hd => ?_) (hsetr := fun _ => hc) (hsetp := fun _ => hc)
  · subst e
    exact pairwise_concat.2 ⟨hc, fun a ha => ⟨h.bornLt a ha, hm a ha⟩⟩
  · rcases retain_cases m with e | ⟨ids, -, e⟩ <;> rw [e]
    · exact hc
    · show Chrono (repoint _ _)
      rw [sortByTs_eq hc]
      exact chrono_restrict hc List.filter_sublist
  · rw [delSnap_eq hd]
    split <;> exact chrono_restrict hc List.eraseP_sublist

theorem takeWhile_eq_filter {α : Type} {R : α → α → Prop} {p : α → Bool} (hp : ∀ a b, R a b → p b = true → p a = true)
    {l : List α} (h : l.Pairwise R) : l.takeWhile p = l.filter p := by
  induction h with
  | nil => rfl
  | @cons a l hal _ ih =>
    rw [List.takeWhile_cons, List.filter_cons]
    split
    · rw [ih]
    · rename_i hpa
      exact (List.filter_eq_nil_iff.2 fun b hb hpb => hpa (hp _ _ (hal b hb) hpb)).symm

theorem byTime_spec (m : Meta) (hc : Chrono m.snaps) (t : Nat) :
    (∀ r, byTime t m = some r → r ∈ m.snaps ∧ r.ts ≤ t ∧ ∀ s ∈ m.snaps, s.ts ≤ t → s.born ≤ r.born) ∧
    (byTime t m = none → ∀ s ∈ m.snaps, ¬ s.ts ≤ t) := by
  -- in a `Chrono` list sorting by timestamp changes nothing, `takeWhile (·.ts ≤ t)` is `filter`, and the last element was born last
  unfold byTime
  rw [sortByTs_eq hc,
    takeWhile_eq_filter (fun a b hab hb => decide_eq_true (Nat.le_trans hab.2 (of_decide_eq_true hb))) hc]
  have hmem : ∀ s, s ∈ m.snaps.filter (fun s => decide (s.ts ≤ t)) ↔ s ∈ m.snaps ∧ s.ts ≤ t := fun s => by
    rw [List.mem_filter, decide_eq_true_eq]
  constructor
  · intro r hr
    obtain ⟨hrm, hrt⟩ := (hmem r).1 (List.mem_of_getLast? hr)
    refine ⟨hrm, hrt, fun s hs hst => ?_⟩
    exact le_getLast? ((hc.sublist List.filter_sublist).imp And.left) hr s ((hmem s).2 ⟨hs, hst⟩)
  · intro hn s hs hst
    exact List.not_mem_nil (List.getLast?_eq_none_iff.1 hn ▸ (hmem s).2 ⟨hs, hst⟩)

end DSV.Meta
