import DSV.Model.Skeleton
import DSV.Generated.Skeleton
/-! The steps of `GarbageCollector.collect`, read off the generated skeleton once for C06 (read order) and C07 (sweep last). -/
namespace DSV.Skel
open DSV.Generated.Skel

theorem gcCollect_steps :
    project gcVoc gcCollect = ["markers", "meta", "hintCheck", "abort", "readList", "abort", "readManifest", "abort",
                               "list", "list", "sweep", "sweep"] := by decide +kernel

end DSV.Skel
