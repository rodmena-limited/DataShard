import DSV.Model.Lock
import DSV.Proofs.Update
/-! Invariants and step lemmas behind `DSV/Props/C19.lean`. -/
namespace DSV.Lock

@[simp] theorem setInst_inst (s : FSys) (a : Nat) (f : FL) (x : Nat) :
    (setInst s a f).inst x = if x = a then f else s.inst x := rfl
@[simp] theorem setInst_k (s : FSys) (a : Nat) (f : FL) : (setInst s a f).k = s.k := rfl
@[simp] theorem setInst_now (s : FSys) (a : Nat) (f : FL) : (setInst s a f).now = s.now := rfl

structure FInv (s : FSys) : Prop where
  inode : ∀ h ∈ s.k.holders, h.inode = s.k.pathInode
  uniq : ∀ h1 ∈ s.k.holders, ∀ h2 ∈ s.k.holders, h1 = h2
  backed : ∀ a, (s.inst a).locked = true →
    ∃ ofd, (s.inst a).fd = some ofd ∧ ofd ∈ s.k.holders ∧ ofd.owner = a

/-- every holder sits on the inode the path names, so an attempt that finds that inode free finds no holder at all -/
theorem holders_nil_of_not_busy {l : List Ofd} {i : Nat} (hin : ∀ h ∈ l, h.inode = i)
    (hb : ¬ l.any (fun h => h.inode == i) = true) : l = [] :=
  List.eq_nil_iff_forall_not_mem.mpr fun x hx => hb (List.any_eq_true.mpr ⟨x, hx, beq_iff_eq.mpr (hin x hx)⟩)

/-- the three outcomes of one `_try_acquire_once`: lock busy and deadline passed (TimeoutError), lock busy and still
waiting, or a fresh descriptor takes the flock that nobody holds -/
theorem fstep_attempt {s s' : FSys} {a : Nat} (h : fstep s a .attempt = some s') :
    ∃ dl, (s.inst a).deadline = some dl ∧
      ((s.k.holders.any (fun h => h.inode == s.k.pathInode) = true ∧
          ((s.now ≥ dl ∧ s' = setInst { s with k := { s.k with nextOfd := s.k.nextOfd + 1 } } a
                                  { s.inst a with deadline := none, timedOut := true }) ∨
           (s.now < dl ∧ s' = { s with k := { s.k with nextOfd := s.k.nextOfd + 1 } }))) ∨
       (¬ s.k.holders.any (fun h => h.inode == s.k.pathInode) = true ∧
          s' = setInst { s with k := { s.k with holders := ⟨s.k.nextOfd, s.k.pathInode, a⟩ :: s.k.holders,
                                                nextOfd := s.k.nextOfd + 1 } } a
                 { s.inst a with locked := true, fd := some ⟨s.k.nextOfd, s.k.pathInode, a⟩, deadline := none })) := by
  dsimp only [fstep] at h
  split at h
  · cases h
  · next dl hd =>
    refine ⟨dl, hd, ?_⟩
    split at h
    · next hb =>
      split at h <;> cases h
      · next hn => exact .inl ⟨hb, .inl ⟨hn, rfl⟩⟩
      · next hn => exact .inl ⟨hb, .inr ⟨Nat.not_le.mp hn, rfl⟩⟩
    · next hb => cases h; exact .inr ⟨hb, rfl⟩

/-- `a`'s record is replaced and the kernel's holders only shrink, keeping every descriptor of the other actors: the
invariant survives if the new record, where it claims the lock, is backed by the new holders -/
theorem finv_setInst {s : FSys} (hi : FInv s) (k' : Kernel) (a : Nat) (f : FL) (hp : k'.pathInode = s.k.pathInode)
    (hsub : ∀ h ∈ k'.holders, h ∈ s.k.holders) (hkeep : ∀ h ∈ s.k.holders, h.owner ≠ a → h ∈ k'.holders)
    (hf : f.locked = true → ∃ ofd, f.fd = some ofd ∧ ofd ∈ k'.holders ∧ ofd.owner = a) :
    FInv (setInst { s with k := k' } a f) := by
  refine ⟨fun h hh => (hi.inode h (hsub h hh)).trans hp.symm, fun x hx y hy => hi.uniq x (hsub x hx) y (hsub y hy),
    forall_update (P := fun x (g : FL) => g.locked = true → ∃ ofd, g.fd = some ofd ∧ ofd ∈ k'.holders ∧ ofd.owner = x)
      (fun x hxa hl => ?_) hf⟩
  obtain ⟨o, hfd, hm, ho⟩ := hi.backed x hl
  exact ⟨o, hfd, hkeep o hm (ho ▸ hxa), ho⟩

theorem finv_step {s s' : FSys} {a : Nat} {act : FAct} (hi : FInv s) (hs : fstep s a act = some s') : FInv s' := by
  cases act with
  | tick d => cases hs; exact { hi with }
  | begin t =>
    dsimp only [fstep] at hs
    split at hs
    · cases hs
    · cases hs; exact finv_setInst hi s.k a _ rfl (fun _ h => h) (fun _ h _ => h) (hi.backed a)
  | attempt =>
    obtain ⟨dl, _, ⟨_, ⟨_, rfl⟩ | ⟨_, rfl⟩⟩ | ⟨hb, rfl⟩⟩ := fstep_attempt hs
    · exact finv_setInst hi _ a _ rfl (fun _ h => h) (fun _ h _ => h) (hi.backed a)
    · exact { hi with }
    · -- nobody held the flock: the new descriptor is the only holder, and nobody else believed to hold it
      have hnil := holders_nil_of_not_busy hi.inode hb
      refine ⟨fun h hh => ?_, fun x hx y hy => ?_, fun x hl => ?_⟩
      · rw [hnil] at hh; cases List.mem_singleton.mp hh; rfl
      · rw [hnil] at hx hy; rw [List.mem_singleton.mp hx, List.mem_singleton.mp hy]
      · by_cases hxa : x = a
        · subst hxa; simp
        · simp only [setInst_inst, if_neg hxa] at hl
          obtain ⟨ofd, _, hm, _⟩ := hi.backed x hl
          rw [hnil] at hm; cases hm
  | release =>
    dsimp only [fstep] at hs
    split at hs
    · next ofd hl hfd =>
      cases hs
      obtain ⟨ofd', hfd', _, ho'⟩ := hi.backed a hl
      rw [hfd] at hfd'; cases hfd'
      refine finv_setInst hi _ a _ rfl (fun h hh => (List.mem_filter.mp hh).1) (fun h hh hne => ?_) (fun h => by cases h)
      exact List.mem_filter.mpr ⟨hh, by simpa using fun (he : h = ofd) => hne (he ▸ ho')⟩
    · cases hs; exact hi
  | die =>
    cases hs
    exact finv_setInst hi _ a _ rfl (fun h hh => (List.mem_filter.mp hh).1)
      (fun h hh hne => List.mem_filter.mpr ⟨hh, by simpa using hne⟩) (fun h => by cases h)

theorem finv_init : FInv finit :=
  ⟨nofun, nofun, nofun⟩

theorem finv_reach {s : FSys} (h : FReach s) : FInv s := by
  induction h with
  | init => exact finv_init
  | step a act _ hs ih => exact finv_step ih hs

/-- actor `a` believes it holds the lock AND the kernel agrees -/
def KernelBacked (s : FSys) (a : Nat) : Prop :=
  (s.inst a).locked = true → ∃ ofd, (s.inst a).fd = some ofd ∧ ofd ∈ s.k.holders ∧ ofd.owner = a ∧ ofd.inode = s.k.pathInode

/-- `a` owns the lock object: the object carries its id and the ETag it last wrote -/
def Owns (s : SSys) (a : Nat) : Prop := ∃ o, s.obj = some o ∧ o.owner = a ∧ (s.cl a).etag = some o.etag

@[simp] theorem setCl_cl (s : SSys) (a : Nat) (c : Cl) (x : Nat) :
    (setCl s a c).cl x = if x = a then c else s.cl x := rfl
@[simp] theorem setCl_obj (s : SSys) (a : Nat) (c : Cl) : (setCl s a c).obj = s.obj := rfl
@[simp] theorem setCl_nextEtag (s : SSys) (a : Nat) (c : Cl) : (setCl s a c).nextEtag = s.nextEtag := rfl
@[simp] theorem setCl_now (s : SSys) (a : Nat) (c : Cl) : (setCl s a c).now = s.now := rfl
@[simp] theorem setCl_lease (s : SSys) (a : Nat) (c : Cl) : (setCl s a c).lease = s.lease := rfl
@[simp] theorem setCl_condDelete (s : SSys) (a : Nat) (c : Cl) : (setCl s a c).condDelete = s.condDelete := rfl
@[simp] theorem setCl_log (s : SSys) (a : Nat) (c : Cl) : (setCl s a c).log = s.log := rfl

/-- `e` is an ETag the store issued, and for as long as the object still carries it `P` holds of the object: what a client
that remembers `e` may rely on -/
def Knows (s : SSys) (e : Nat) (P : Obj → Prop) : Prop := e < s.nextEtag ∧ ∀ o, s.obj = some o → o.etag = e → P o

theorem Knows.mono {s : SSys} {e : Nat} {P Q : Obj → Prop} (h : Knows s e P) (hPQ : ∀ o, P o → Q o) : Knows s e Q :=
  ⟨h.1, fun o ho hoe => hPQ o (h.2 o ho hoe)⟩

/-- a PUT carries a fresh ETag and a DELETE leaves no object: an ETag remembered from before then promises anything -/
theorem Knows.put {s : SSys} {e : Nat} {P Q : Obj → Prop} (h : Knows s e Q) (w t : Nat) (log : List (Nat × Nat)) :
    Knows { s with obj := some ⟨w, s.nextEtag, t⟩, nextEtag := s.nextEtag + 1, log := log } e P :=
  ⟨Nat.lt_succ_of_lt h.1, fun _ ho hoe => by cases ho; exact absurd h.1 (hoe ▸ Nat.lt_irrefl _)⟩

theorem Knows.delete {s : SSys} {e : Nat} {P Q : Obj → Prop} (h : Knows s e Q) : Knows { s with obj := none } e P :=
  ⟨h.1, fun _ ho => nomatch ho⟩

structure SInv (cd : Bool) (s : SSys) : Prop where
  objLt : ∀ o, s.obj = some o → o.etag < s.nextEtag
  own : ∀ a e, (s.cl a).etag = some e → Knows s e (·.owner = a)
  seenLapsed : ∀ a e m, (s.cl a).seen = some (e, m) → Knows s e (s.now - ·.mtime > s.lease)
  cd_eq : s.condDelete = cd

theorem SInv.knows_obj {cd : Bool} {s : SSys} (hi : SInv cd s) {o : Obj} {P : Obj → Prop}
    (ho : s.obj = some o) (hP : P o) : Knows s o.etag P :=
  ⟨hi.objLt o ho, fun _ ho' _ => Option.some.inj (ho.symm.trans ho') ▸ hP⟩

theorem sinv_init (lease : Nat) (cd : Bool) : SInv cd (sinit lease cd) :=
  ⟨nofun, nofun, nofun, rfl⟩

theorem sinv_tick {cd : Bool} {s : SSys} (hi : SInv cd s) (d : Nat) : SInv cd { s with now := s.now + d } :=
  { hi with seenLapsed := fun a e m h => (hi.seenLapsed a e m h).mono fun o hlap =>
      Nat.lt_of_lt_of_le hlap (Nat.sub_le_sub_right (Nat.le_add_right s.now d) o.mtime) }

theorem sinv_delete {cd : Bool} {s : SSys} (hi : SInv cd s) : SInv cd { s with obj := none } :=
  ⟨nofun, fun a e h => (hi.own a e h).delete, fun a e m h => (hi.seenLapsed a e m h).delete, hi.cd_eq⟩

theorem sinv_put {cd : Bool} {s : SSys} (hi : SInv cd s) (w t : Nat) (log : List (Nat × Nat)) :
    SInv cd { s with obj := some ⟨w, s.nextEtag, t⟩, nextEtag := s.nextEtag + 1, log := log } :=
  ⟨fun _ ho => by cases ho; exact Nat.lt_succ_self _, fun a e h => (hi.own a e h).put w t log,
    fun a e m h => (hi.seenLapsed a e m h).put w t log, hi.cd_eq⟩

theorem sinv_setCl {cd : Bool} {s : SSys} (hi : SInv cd s) (a : Nat) (c : Cl)
    (he : ∀ e, c.etag = some e → Knows s e (·.owner = a))
    (hseen : ∀ e m, c.seen = some (e, m) → Knows s e (s.now - ·.mtime > s.lease)) : SInv cd (setCl s a c) :=
  ⟨hi.objLt,
    forall_update (P := fun x (c : Cl) => ∀ e, c.etag = some e → Knows s e (·.owner = x)) (fun x _ => hi.own x) he,
    forall_update (P := fun _ (c : Cl) => ∀ e m, c.seen = some (e, m) → Knows s e (s.now - ·.mtime > s.lease))
      (fun x _ => hi.seenLapsed x) hseen,
    hi.cd_eq⟩

/-- What one step of `a` does, as far as the invariant and the properties of C19 tell steps apart. -/
inductive SStep (s : SSys) (a : Nat) : SSys → Prop where
  | tick (d : Nat) : SStep s a { s with now := s.now + d }
  | skip : SStep s a s
  /-- only `a`'s own record changes, and it remembers no ETag and no observation that it did not remember before -/
  | forget (c : Cl) (he : ∀ e, c.etag = some e → (s.cl a).etag = some e)
      (hseen : ∀ p, c.seen = some p → (s.cl a).seen = some p) : SStep s a (setCl s a c)
  /-- HEAD finds an object whose lease lapsed -/
  | observe (o : Obj) (ho : s.obj = some o) (hlap : s.now - o.mtime > s.lease) :
      SStep s a (setCl s a { s.cl a with seen := some (o.etag, o.mtime) })
  /-- the conditional PUT of an acquisition went through: create on no object, or takeover on the ETag seen -/
  | acquire (pre : s.obj = none ∨ ∃ o m, s.obj = some o ∧ (s.cl a).seen = some (o.etag, m)) :
      SStep s a (setCl { s with obj := some ⟨a, s.nextEtag, s.now⟩, nextEtag := s.nextEtag + 1, log := (a, s.now) :: s.log } a
        { s.cl a with isLocked := true, etag := some s.nextEtag, seen := none })
  /-- the conditional PUT of a renewal went through, on the renewer's own ETag -/
  | renew (o : Obj) (ho : s.obj = some o) (he : (s.cl a).etag = some o.etag) :
      SStep s a (setCl { s with obj := some ⟨a, s.nextEtag, s.now⟩, nextEtag := s.nextEtag + 1 } a
        { s.cl a with etag := some s.nextEtag })
  /-- the DELETE of a release; a conditional one only passes on the releaser's own ETag -/
  | delete (pre : s.condDelete = true → ∃ o, s.obj = some o ∧ (s.cl a).etag = some o.etag) :
      SStep s a (setCl { s with obj := none } a { s.cl a with isLocked := false, etag := none, rel := .idle })

theorem sstep_kind {s s' : SSys} {a : Nat} {act : SAct} (h : sstep s a act = some s') : SStep s a s' := by
  revert h
  -- one bullet per branch of `sstep` that returns a state, following the definition from top to bottom
  fun_cases sstep s a act <;> intro h <;> cases h
  -- tick
  · exact .tick _
  -- create
  · next hobj => exact .acquire (.inl hobj)
  · exact .skip
  -- head
  · exact .forget _ (fun _ h => h) nofun
  · next o hobj hlap => exact .observe o hobj hlap
  · exact .forget _ (fun _ h => h) nofun
  -- takeover
  · next m _ o hobj hseen => exact .acquire (.inr ⟨o, m, hobj, hseen⟩)
  · exact .forget _ (fun _ h => h) nofun
  · exact .forget _ (fun _ h => h) nofun
  -- renew
  · next o hobj hetag => exact .renew o hobj hetag
  · exact .forget _ (fun _ h => h) (fun _ h => h)
  · exact .forget _ (fun _ h => h) (fun _ h => h)
  -- isHeld
  · exact .skip
  · exact .skip
  · exact .forget _ (fun _ h => h) (fun _ h => h)
  · exact .skip
  -- relGet
  · exact .forget _ (fun _ h => h) (fun _ h => h)
  · exact .forget _ nofun (fun _ h => h)
  · exact .forget _ nofun (fun _ h => h)
  -- relDelete
  · next del =>
    split
    · next hdel =>
      refine .delete fun hcd => ?_
      simp only [del, if_pos hcd] at hdel
      split at hdel
      · next o e hobj hetag => exact ⟨o, hobj, by rw [hetag, eq_of_beq hdel]⟩
      · cases hdel
    · exact .forget _ nofun (fun _ h => h)

theorem sinv_step {cd : Bool} {s s' : SSys} {a : Nat} {act : SAct} (hi : SInv cd s)
    (hs : sstep s a act = some s') : SInv cd s' := by
  cases sstep_kind hs with
  | tick d => exact sinv_tick hi d
  | skip => exact hi
  | forget c he hseen => exact sinv_setCl hi a c (fun e h => hi.own a e (he e h)) fun e m h => hi.seenLapsed a e m (hseen _ h)
  | observe o ho hlap => exact sinv_setCl hi a _ (hi.own a) fun e m h => by cases h; exact hi.knows_obj ho hlap
  | acquire _ =>
    have hi' := sinv_put hi a s.now ((a, s.now) :: s.log)
    exact sinv_setCl hi' a _ (fun e h => by cases h; exact hi'.knows_obj rfl rfl) nofun
  | renew _ _ _ =>
    have hi' := sinv_put hi a s.now s.log
    exact sinv_setCl hi' a _ (fun e h => by cases h; exact hi'.knows_obj rfl rfl) (hi'.seenLapsed a)
  | delete _ => exact sinv_setCl (sinv_delete hi) a _ nofun ((sinv_delete hi).seenLapsed a)

theorem sinv_reach {lease : Nat} {cd : Bool} {s : SSys} (h : SReach lease cd s) : SInv cd s := by
  induction h with
  | init => exact sinv_init lease cd
  | step a act _ hs ih => exact sinv_step ih hs

def Lapsed (s : SSys) : Prop := ∃ o, s.obj = some o ∧ s.now - o.mtime > s.lease

/-- acquisition event: the ghost log grew -/
def Acquired (s s' : SSys) (a : Nat) : Prop := ∃ t, s'.log = (a, t) :: s.log

theorem owns_setCl {s : SSys} {a b : Nat} (hab : a ≠ b) (c : Cl) (ho : Owns s b) : Owns (setCl s a c) b := by
  obtain ⟨o, hobj, hw, he⟩ := ho
  refine ⟨o, hobj, hw, ?_⟩
  simp [Ne.symm hab, he]

/-- a step of ANOTHER actor takes the object away from its owner only after the lease lapsed, or by the DELETE of a
release that is not conditional on the releaser's own ETag -/
theorem owner_loses_only_by_lapse_or_unconditional_delete {lease : Nat} {cd : Bool} {s s' : SSys} {a b : Nat} {act : SAct}
    (h : SReach lease cd s) (hab : a ≠ b) (hs : sstep s a act = some s') (ho : Owns s b) :
    Owns s' b ∨ Lapsed s ∨ (cd = false ∧ s'.obj = none) := by
  have inv := sinv_reach h
  have ⟨o, hobj, hw, _⟩ := ho
  -- `a` cannot pass an If-Match test on its own ETag: the object is `b`'s
  have notOwn : ∀ o', s.obj = some o' → (s.cl a).etag ≠ some o'.etag := fun o' ho' hea =>
    hab (((inv.own a _ hea).2 o' ho' rfl).symm.trans (Option.some.inj (ho'.symm.trans hobj) ▸ hw))
  cases sstep_kind hs with
  | tick d => exact .inl ho
  | skip => exact .inl ho
  | forget c _ _ => exact .inl (owns_setCl hab c ho)
  | observe o' _ _ => exact .inl (owns_setCl hab _ ho)
  | acquire pre =>
    rcases pre with hnone | ⟨o', m, ho', hseen⟩
    · rw [hobj] at hnone; cases hnone
    · exact .inr (.inl ⟨o', ho', (inv.seenLapsed a _ m hseen).2 o' ho' rfl⟩)
  | renew o' ho' hea => exact absurd hea (notOwn o' ho')
  | delete pre =>
    refine .inr (.inr ⟨?_, rfl⟩)
    cases cd with
    | false => rfl
    | true =>
      obtain ⟨o', ho', hea⟩ := pre inv.cd_eq
      exact absurd hea (notOwn o' ho')

/-- Full statement: a live owner keeps its lock object until its lease lapses, whatever the OTHER actors do. -/
def OwnedObjectPersists (cd : Bool) : Prop :=
  ∀ (lease : Nat) (s s' : SSys), SReach lease cd s → ∀ (a b : Nat), a ≠ b → ∀ act, sstep s a act = some s' →
    Owns s b → Owns s' b ∨ Lapsed s

/-- the release-spans-takeover schedule: 1 acquires, starts releasing (GET says "mine"), is paused past the lease,
2 takes over, 1's unconditional DELETE removes 2's fresh lock -/
def releaseSpansTakeover : List (Nat × SAct) :=
  [(1, .create), (1, .relGet), (0, .tick 61), (2, .create), (2, .head), (2, .takeover), (1, .relDelete)]

theorem sreach_srun (lease : Nat) (cd : Bool) (sched : List (Nat × SAct)) :
    ∀ s s', SReach lease cd s → srun s sched = some s' → SReach lease cd s' := by
  intro s
  fun_induction srun s sched with
  | case1 s => intro s' hr h; cases h; exact hr
  | case2 s a act rest s1 h1 ih => intro s' hr h; exact ih s' (.step a act hr h1) h
  | case3 => intro s' _ h; cases h

theorem freach_frun (sched : List (Nat × FAct)) :
    ∀ s s', FReach s → frun s sched = some s' → FReach s' := by
  intro s
  fun_induction frun s sched with
  | case1 s => intro s' hr h; cases h; exact hr
  | case2 s a act rest s1 h1 ih => intro s' hr h; exact ih s' (.step a act hr h1) h
  | case3 => intro s' _ h; cases h

end DSV.Lock
