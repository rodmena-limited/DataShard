import DSV.Model.Occ
import DSV.Proofs.Update
/-! Invariants and proofs behind `DSV/Props/C01.lean`, `DSV/Props/C02.lean` (pointer history) and `DSV/Props/C08.lean`. -/
namespace DSV.Occ

/-- every flip replaced exactly the version its new version was derived from: no committed update is overwritten -/
def FlipsOk (s : Sys) : Prop := ∀ fl ∈ s.flips, fl.base = fl.replaced

/-- the flips (newest first) form one chain starting at the initial version 0 -/
def Chain : List Flip → Prop
  | [] => True
  | [f] => f.replaced = 0
  | f :: g :: rest => f.replaced = g.new ∧ Chain (g :: rest)

/-- the fid the hint should name given the flips so far -/
def headFid (fl : List Flip) : Nat := match fl with | [] => 0 | f :: _ => f.new

theorem Chain.cons {f : Flip} {fl : List Flip} (hc : Chain fl) (hf : f.replaced = headFid fl) : Chain (f :: fl) := by
  cases fl with
  | nil => exact hf
  | cons g rest => exact ⟨hf, hc⟩

/-- configuration of the repaired local backend: exclusive lock, unconditional flip, strictly increasing stamp -/
def LocalCfg (cfg : Cfg) : Prop := cfg.cas = false ∧ cfg.exclusive = true ∧ cfg.strictStamp = true
/-- configuration of the repaired CAS backend: conditional flip on the ETag read together with the validated version;
NOTHING is assumed about the lock (`exclusive` arbitrary) -/
def CasCfg (cfg : Cfg) : Prop := cfg.cas = true ∧ cfg.singleRead = true ∧ cfg.strictStamp = true

theorem step_readBase {cfg : Cfg} {s s' : Sys} {a : Nat} (h : step cfg s a .readBase = some s') :
    ∃ b, s.pc a = .idle ∧ current s = some b ∧ s' = setPc s a (.based b) := by
  dsimp only [step] at h
  split at h
  · next b hp hc => exact ⟨b, hp, hc, (Option.some.inj h).symm⟩
  · cases h

theorem step_acquire {cfg : Cfg} {s s' : Sys} {a : Nat} (h : step cfg s a .acquire = some s') :
    ∃ b, s.pc a = .based b ∧ (cfg.exclusive = true → s.holder = none) ∧
      s' = { setPc s a (.locked b) with holder := if cfg.exclusive then some a else s.holder } := by
  dsimp only [step] at h
  split at h
  · next b hp =>
    refine ⟨b, hp, ?_⟩
    cases hx : cfg.exclusive <;> rw [hx] at h
    · exact ⟨nofun, (Option.some.inj h).symm⟩
    · obtain ⟨hh, h⟩ := Option.ite_none_right_eq_some.mp h
      exact ⟨fun _ => hh, (Option.some.inj h).symm⟩
  · cases h

theorem step_validate {cfg : Cfg} {s s' : Sys} {a : Nat} (h : step cfg s a .validate = some s') :
    ∃ b c, s.pc a = .locked b ∧ current s = some c ∧
      ((c.cur = b.cur ∧ c.lu = b.lu ∧
          s' = setPc s a (.validated b c (if cfg.cas && cfg.singleRead then some s.hint.etag else none))) ∨
       s' = setPc s a .conflict) := by
  dsimp only [step] at h
  split at h
  · next b c hp hc =>
    refine ⟨b, c, hp, hc, ?_⟩
    by_cases hx : c.cur = b.cur ∧ c.lu = b.lu
    · rw [if_pos hx] at h
      exact Or.inl ⟨hx.1, hx.2, (Option.some.inj h).symm⟩
    · rw [if_neg hx] at h
      exact Or.inr (Option.some.inj h).symm
  · cases h

theorem step_etagRead {cfg : Cfg} {s s' : Sys} {a : Nat} (h : step cfg s a .etagRead = some s') :
    ∃ b c, s.pc a = .validated b c none ∧ (cfg.cas && !cfg.singleRead) = true ∧
      s' = setPc s a (.validated b c (some s.hint.etag)) := by
  dsimp only [step] at h
  split at h
  · next b c hp =>
    obtain ⟨hx, h⟩ := Option.ite_none_right_eq_some.mp h
    exact ⟨b, c, hp, hx, (Option.some.inj h).symm⟩
  · cases h

def newVer (cfg : Cfg) (s : Sys) (a : Nat) (t : Nat) (b c : Ver) : Ver :=
  { fid := s.nextFid,
    cur := (match s.kind a with | .snap => s.nextCur | .metaOnly => b.cur),
    lu := if cfg.strictStamp then max t (c.lu + 1) else t,
    applied := b.applied ++ [a] }

theorem step_writeMeta {cfg : Cfg} {s s' : Sys} {a t : Nat} (h : step cfg s a (.writeMeta t) = some s') :
    ∃ b c e, s.pc a = .validated b c e ∧ ¬ (((cfg.cas && e.isNone) || decide (s.now < t)) = true) ∧
      s' = { setPc s a (.wrote b (newVer cfg s a t b c) e) with
             files := newVer cfg s a t b c :: s.files, nextFid := s.nextFid + 1, nextCur := s.nextCur + 1 } := by
  dsimp only [step] at h
  split at h
  · next b c e hp =>
    obtain ⟨hx, h⟩ := Option.ite_none_left_eq_some.mp h
    exact ⟨b, c, e, hp, hx, (Option.some.inj h).symm⟩
  · cases h

theorem step_fence {cfg : Cfg} {s s' : Sys} {a : Nat} {held : Bool} (h : step cfg s a (.fence held) = some s') :
    ∃ b n e, s.pc a = .wrote b n e ∧ (cfg.exclusive = true → held = true) ∧
      s' = setPc s a (if held then .fenced b n e else .conflict) := by
  dsimp only [step] at h
  split at h
  · next b n e hp =>
    refine ⟨b, n, e, hp, ?_⟩
    cases hx : cfg.exclusive <;> rw [hx] at h
    · exact ⟨nofun, (Option.some.inj h).symm⟩
    · obtain ⟨hh, h⟩ := Option.ite_none_right_eq_some.mp h
      exact ⟨fun _ => hh, by rw [hh]; exact (Option.some.inj h).symm⟩
  · cases h

/-- the flip of an actor holding ETag `e` would go through -/
def StillCur (cfg : Cfg) (hint : Hint) (e : Option Nat) : Prop := cfg.cas = true → e = some hint.etag

theorem step_flip {cfg : Cfg} {s s' : Sys} {a : Nat} (h : step cfg s a .flip = some s') :
    ∃ b n e, s.pc a = .fenced b n e ∧
      ((StillCur cfg s.hint e ∧
        s' = { setPc s a (.flipped n) with hint := ⟨n.fid, s.nextEtag⟩, nextEtag := s.nextEtag + 1,
                                           flips := ⟨a, b.fid, s.hint.fid, n.fid⟩ :: s.flips }) ∨
       (cfg.cas = true ∧ e ≠ some s.hint.etag ∧ s' = setPc s a .conflict)) := by
  dsimp only [step] at h
  split at h
  · next b n e hp =>
    refine ⟨b, n, e, hp, ?_⟩
    by_cases hc : cfg.cas = true
    · rw [if_pos hc] at h
      by_cases he : e = some s.hint.etag
      · rw [if_pos he] at h
        exact Or.inl ⟨fun _ => he, (Option.some.inj h).symm⟩
      · rw [if_neg he] at h
        exact Or.inr ⟨hc, he, (Option.some.inj h).symm⟩
    · rw [if_neg hc] at h
      exact Or.inl ⟨fun h' => absurd h' hc, (Option.some.inj h).symm⟩
  · cases h

theorem step_release {cfg : Cfg} {s s' : Sys} {a : Nat} {retry : Bool} (h : step cfg s a (.release retry) = some s') :
    ((∃ n, s.pc a = .flipped n) ∧ s' = setPc (releaseLock s a) a (.done true)) ∨
    (s.pc a = .conflict ∧ s' = setPc (releaseLock s a) a (if retry then .idle else .done false)) := by
  dsimp only [step] at h
  split at h
  · next n hp => exact Or.inl ⟨⟨n, hp⟩, (Option.some.inj h).symm⟩
  · next hp => exact Or.inr ⟨hp, (Option.some.inj h).symm⟩
  · cases h

@[simp] theorem setPc_files (s : Sys) (a : Nat) (p : Pc) : (setPc s a p).files = s.files := rfl
@[simp] theorem setPc_hint (s : Sys) (a : Nat) (p : Pc) : (setPc s a p).hint = s.hint := rfl
@[simp] theorem setPc_nextFid (s : Sys) (a : Nat) (p : Pc) : (setPc s a p).nextFid = s.nextFid := rfl
@[simp] theorem setPc_nextEtag (s : Sys) (a : Nat) (p : Pc) : (setPc s a p).nextEtag = s.nextEtag := rfl
@[simp] theorem setPc_holder (s : Sys) (a : Nat) (p : Pc) : (setPc s a p).holder = s.holder := rfl
@[simp] theorem setPc_flips (s : Sys) (a : Nat) (p : Pc) : (setPc s a p).flips = s.flips := rfl
@[simp] theorem setPc_pc (s : Sys) (a : Nat) (p : Pc) (x : Nat) :
    (setPc s a p).pc x = if x = a then p else s.pc x := rfl

theorem releaseLock_eq (s : Sys) (a : Nat) :
    releaseLock s a = { s with holder := if s.holder = some a then none else s.holder } := by
  by_cases h : s.holder = some a <;> simp [releaseLock, h]

theorem releaseLock_holder (s : Sys) (a : Nat) :
    (releaseLock s a).holder = if s.holder = some a then none else s.holder :=
  congrArg Sys.holder (releaseLock_eq s a)

theorem runSched_preserves {cfg : Cfg} {P : Sys → Prop}
    (hstep : ∀ s a act s', P s → step cfg s a act = some s' → P s') (sched : List (Nat × Act)) :
    ∀ s s', P s → runSched cfg s sched = some s' → P s' := by
  intro s
  fun_induction runSched cfg s sched with
  | case1 s => intro s' hp h; cases h; exact hp
  | case2 s a act rest s1 h1 ih => intro s' hp h; exact ih s' (hstep s a act s1 hp h1) h
  | case3 => intro s' _ h; cases h

theorem reach_runSched (cfg : Cfg) (kind : Nat → Kind) (sched : List (Nat × Act)) :
    ∀ s s', Reach cfg kind s → runSched cfg s sched = some s' → Reach cfg kind s' :=
  runSched_preserves (fun _ a act _ hr hs => hr.step a act hs) sched

/-- a schedule refutes serializability if it ends with committers `a` and `b` both acknowledged although the newest flip
replaced a version it was not derived from -/
theorem lost_update_witness {cfg : Cfg} {kind : Nat → Kind} {sched : List (Nat × Act)} {f : Flip} {rest : List Flip} {a b : Nat}
    (hne : f.base ≠ f.replaced)
    (h : (runSched cfg (init kind) sched).map (fun s => (s.flips, s.pc a, s.pc b)) = some (f :: rest, .done true, .done true)) :
    ∃ s, Reach cfg kind s ∧ ¬ FlipsOk s ∧ s.pc a = .done true ∧ s.pc b = .done true := by
  obtain ⟨s, hs, h⟩ := Option.map_eq_some_iff.mp h
  obtain ⟨hf, hpc⟩ := Prod.mk.inj h
  exact ⟨s, reach_runSched cfg kind sched _ s Reach.init hs, fun hok => hne (hok f (hf ▸ List.mem_cons_self)), Prod.mk.inj hpc⟩

/-- the program points of a committer whose flip went through -/
def Acked (p : Pc) : Prop := (∃ n, p = .flipped n) ∨ p = .done true

/-- a step either leaves the flips and everybody's acknowledgement alone, or it is the successful flip of a committer
that was not acknowledged before -/
theorem step_acks {cfg : Cfg} {s s' : Sys} {a : Nat} {act : Act} (h : step cfg s a act = some s') :
    (s'.flips = s.flips ∧ ∀ x, Acked (s'.pc x) ↔ Acked (s.pc x)) ∨
    (¬ Acked (s.pc a) ∧ ∃ f, f.actor = a ∧ s'.flips = f :: s.flips ∧ ∀ x, Acked (s'.pc x) ↔ x = a ∨ Acked (s.pc x)) := by
  have keep : ∀ {p : Pc}, (Acked p ↔ Acked (s.pc a)) → ∀ x, Acked ((setPc s a p).pc x) ↔ Acked (s.pc x) :=
    forall_update (P := fun x q => Acked q ↔ Acked (s.pc x)) (fun _ _ => Iff.rfl)
  cases act with
  | tick d => cases h; exact Or.inl ⟨rfl, fun _ => Iff.rfl⟩
  | readBase =>
    obtain ⟨b, hp, _, rfl⟩ := step_readBase h
    exact Or.inl ⟨rfl, keep (by simp [hp, Acked])⟩
  | acquire =>
    obtain ⟨b, hp, _, rfl⟩ := step_acquire h
    exact Or.inl ⟨rfl, keep (by simp [hp, Acked])⟩
  | validate =>
    obtain ⟨b, c, hp, _, ⟨_, _, rfl⟩ | rfl⟩ := step_validate h
    · exact Or.inl ⟨rfl, keep (by simp [hp, Acked])⟩
    · exact Or.inl ⟨rfl, keep (by simp [hp, Acked])⟩
  | etagRead =>
    obtain ⟨b, c, hp, _, rfl⟩ := step_etagRead h
    exact Or.inl ⟨rfl, keep (by simp [hp, Acked])⟩
  | writeMeta t =>
    obtain ⟨b, c, e, hp, _, rfl⟩ := step_writeMeta h
    exact Or.inl ⟨rfl, keep (by simp [hp, Acked])⟩
  | fence held =>
    obtain ⟨b, n, e, hp, _, rfl⟩ := step_fence h
    exact Or.inl ⟨rfl, keep (by cases held <;> simp [hp, Acked])⟩
  | flip =>
    obtain ⟨b, n, e, hp, ⟨_, rfl⟩ | ⟨_, _, rfl⟩⟩ := step_flip h
    · exact Or.inr ⟨by simp [hp, Acked], _, rfl, rfl,
        forall_update (P := fun x q => Acked q ↔ x = a ∨ Acked (s.pc x)) (fun x hx => by simp [hx]) (by simp [Acked])⟩
    · exact Or.inl ⟨rfl, keep (by simp [hp, Acked])⟩
  | release retry =>
    obtain ⟨⟨n, hp⟩, rfl⟩ | ⟨hp, rfl⟩ := step_release h <;> rw [releaseLock_eq]
    · exact Or.inl ⟨rfl, keep (by simp [hp, Acked])⟩
    · exact Or.inl ⟨rfl, keep (by cases retry <;> simp [hp, Acked])⟩

/-- the actors of the flips are exactly the acknowledged committers, each once -/
def AckInv (s : Sys) : Prop :=
  (∀ x, x ∈ s.flips.map (·.actor) ↔ Acked (s.pc x)) ∧ (s.flips.map (·.actor)).Nodup

theorem AckInv.step {cfg : Cfg} {s s' : Sys} {a : Nat} {act : Act} (hi : AckInv s)
    (h : step cfg s a act = some s') : AckInv s' := by
  rcases step_acks h with ⟨hf, hk⟩ | ⟨hna, f, hfa, hf, hk⟩
  · exact ⟨fun x => by rw [hf, hk x]; exact hi.1 x, hf ▸ hi.2⟩
  · rw [← hi.1 a] at hna
    constructor
    · intro x
      rw [hf, hk x, ← hi.1 x, List.map_cons, List.mem_cons, hfa]
    · rw [hf, List.map_cons, List.nodup_cons, hfa]
      exact ⟨hna, hi.2⟩

theorem ackInv_init (kind : Nat → Kind) : AckInv (init kind) := by
  refine ⟨fun x => ?_, ?_⟩ <;> simp [init, Acked]

theorem ackInv_reach {cfg : Cfg} {kind : Nat → Kind} {s : Sys} (hr : Reach cfg kind s) : AckInv s := by
  induction hr with
  | init => exact ackInv_init kind
  | step a act _ hs ih => exact ih.step hs

/-- `v` is a stored file that the hint has named at some time -/
def OnChain (files : List Ver) (flips : List Flip) (v : Ver) : Prop :=
  v ∈ files ∧ (v.fid = 0 ∨ ∃ fl ∈ flips, fl.new = v.fid)

def EtagOk (nextEtag : Nat) (e : Option Nat) : Prop := ∀ e0, e = some e0 → e0 < nextEtag

def InCrit : Pc → Prop
  | .locked _ => True
  | .validated _ _ _ => True
  | .wrote _ _ _ => True
  | .fenced _ _ _ => True
  | .flipped _ => True
  | .conflict => True
  | _ => False

def PcInv (cfg : Cfg) (files : List Ver) (hint : Hint) (nextEtag : Nat) (flips : List Flip) (a : Nat) : Pc → Prop
  | .based b => OnChain files flips b
  | .locked b => OnChain files flips b
  | .validated b c e => b = c ∧ OnChain files flips b ∧ EtagOk nextEtag e ∧ (StillCur cfg hint e → hint.fid = b.fid)
  | .wrote b n e => OnChain files flips b ∧ n ∈ files ∧ b.lu < n.lu ∧ n.applied = b.applied ++ [a] ∧
      EtagOk nextEtag e ∧ (StillCur cfg hint e → hint.fid = b.fid)
  | .fenced b n e => OnChain files flips b ∧ n ∈ files ∧ b.lu < n.lu ∧ n.applied = b.applied ++ [a] ∧
      EtagOk nextEtag e ∧ (StillCur cfg hint e → hint.fid = b.fid)
  | _ => True

/-- Why validating by stamp is enough: `cur` says the version the hint names carries the greatest stamp on the chain and `inj`
that stamps identify chain versions, so validation, which compares stamps, identifies the base (`PcInv … (.validated b c e)`:
`b = c`).  `PcInv`'s clause `StillCur … → hint.fid = b.fid` reads "if my flip would still go through, the pointer still names my
base".  `InCrit` includes `.conflict` and `.flipped` because the lock is held until `release`. -/
structure Inv (cfg : Cfg) (s : Sys) : Prop where
  look : ∀ v ∈ s.files, s.files.find? (·.fid == v.fid) = some v
  fidLt : ∀ v ∈ s.files, v.fid < s.nextFid
  zeroLt : 0 < s.nextFid
  newLt : ∀ fl ∈ s.flips, fl.new < s.nextFid
  etagLt : s.hint.etag < s.nextEtag
  flipsOk : ∀ fl ∈ s.flips, fl.base = fl.replaced
  chain : Chain s.flips
  head : s.hint.fid = headFid s.flips
  cur : ∃ v, s.files.find? (·.fid == s.hint.fid) = some v ∧ v.applied = (s.flips.map (·.actor)).reverse ∧
          ∀ w, OnChain s.files s.flips w → w.lu ≤ v.lu
  inj : ∀ v w, OnChain s.files s.flips v → OnChain s.files s.flips w → v.lu = w.lu → v = w
  excl : cfg.exclusive = true → ∀ x, InCrit (s.pc x) → s.holder = some x
  pcs : ∀ x, PcInv cfg s.files s.hint s.nextEtag s.flips x (s.pc x)

theorem find_some {files : List Ver} {f : Nat} {v : Ver} (h : files.find? (·.fid == f) = some v) :
    v ∈ files ∧ v.fid = f := by
  have := List.find?_some h
  exact ⟨List.mem_of_find?_eq_some h, eq_of_beq this⟩

theorem OnChain.mono {files files' : List Ver} {flips flips' : List Flip} {v : Ver}
    (h : OnChain files flips v) (h1 : ∀ w ∈ files, w ∈ files') (h2 : ∀ fl ∈ flips, fl ∈ flips') :
    OnChain files' flips' v := by
  refine ⟨h1 _ h.1, ?_⟩
  rcases h.2 with h0 | ⟨fl, hm, hf⟩
  · exact Or.inl h0
  · exact Or.inr ⟨fl, h2 _ hm, hf⟩

theorem EtagOk.mono {n n' : Nat} {e : Option Nat} (h : EtagOk n e) (hn : n ≤ n') : EtagOk n' e :=
  fun e0 he => Nat.lt_of_lt_of_le (h e0 he) hn

theorem Inv.cur_onChain {cfg : Cfg} {s : Sys} (hi : Inv cfg s) {c : Ver} (hc : current s = some c) :
    OnChain s.files s.flips c ∧ c.fid = s.hint.fid := by
  have hc' : s.files.find? (·.fid == s.hint.fid) = some c := hc
  obtain ⟨hm, hf⟩ := find_some hc'
  refine ⟨⟨hm, ?_⟩, hf⟩
  rw [hf, hi.head]
  cases hfl : s.flips with
  | nil => exact Or.inl rfl
  | cons f rest => exact Or.inr ⟨f, List.mem_cons_self, rfl⟩

/-- the pc invariant survives growing files, flips and ETag counter, provided that what it says about the hint survives -/
theorem PcInv.mono {cfg : Cfg} {files files' : List Ver} {hint hint' : Hint} {ne ne' : Nat} {flips flips' : List Flip}
    {x : Nat} {p : Pc} (h : PcInv cfg files hint ne flips x p) (h1 : ∀ w ∈ files, w ∈ files')
    (h2 : ∀ fl ∈ flips, fl ∈ flips') (hne : ne ≤ ne')
    (hh : InCrit p → ∀ e (b : Ver), EtagOk ne e → (StillCur cfg hint e → hint.fid = b.fid) →
      StillCur cfg hint' e → hint'.fid = b.fid) :
    PcInv cfg files' hint' ne' flips' x p := by
  cases p with
  | based b | locked b => exact OnChain.mono h h1 h2
  | validated b c e =>
    obtain ⟨hbc, hb, he, hs⟩ := h
    exact ⟨hbc, hb.mono h1 h2, he.mono hne, hh trivial e b he hs⟩
  | wrote b n e | fenced b n e =>
    obtain ⟨hb, hn, hl, ha, he, hs⟩ := h
    exact ⟨hb.mono h1 h2, h1 _ hn, hl, ha, he.mono hne, hh trivial e b he hs⟩
  | _ => trivial

theorem Inv.pcAt {cfg : Cfg} {s : Sys} (hi : Inv cfg s) {a : Nat} {p : Pc} (hp : s.pc a = p) :
    PcInv cfg s.files s.hint s.nextEtag s.flips a p := hp ▸ hi.pcs a

theorem Inv.frame {cfg : Cfg} {s : Sys} (hi : Inv cfg s) {a : Nat} {p : Pc} {h' : Option Nat}
    (ha : cfg.exclusive = true → InCrit p → h' = some a)
    (ho : cfg.exclusive = true → ∀ x, x ≠ a → InCrit (s.pc x) → h' = some x)
    (hp : PcInv cfg s.files s.hint s.nextEtag s.flips a p) : Inv cfg { setPc s a p with holder := h' } :=
  { hi with excl := fun hx => forall_update (P := fun x q => InCrit q → h' = some x) (ho hx) (ha hx),
            pcs := forall_update (fun x _ => hi.pcs x) hp }

theorem Inv.move {cfg : Cfg} {s : Sys} (hi : Inv cfg s) {a : Nat} {p : Pc} (hc : InCrit p → InCrit (s.pc a))
    (hp : PcInv cfg s.files s.hint s.nextEtag s.flips a p) : Inv cfg (setPc s a p) :=
  hi.frame (fun hx hcp => hi.excl hx a (hc hcp)) (fun hx x _ => hi.excl hx x) hp

theorem Inv.release {cfg : Cfg} {s : Sys} (hi : Inv cfg s) {a : Nat} {p : Pc} (hcr : InCrit (s.pc a)) (hnp : ¬ InCrit p)
    (hp : PcInv cfg s.files s.hint s.nextEtag s.flips a p) : Inv cfg (setPc (releaseLock s a) a p) := by
  rw [releaseLock_eq]
  -- under an exclusive lock nobody else is in the critical section
  refine hi.frame (fun _ hcp => absurd hcp hnp) (fun hx x hxa hcx => absurd ?_ hxa) hp
  exact Option.some.inj ((hi.excl hx x hcx).symm.trans (hi.excl hx a hcr))

/-- storing a file under the next free identity changes nothing the chain can see -/
theorem Inv.addFile {cfg : Cfg} {s : Sys} (hi : Inv cfg s) (n : Ver) (hn : n.fid = s.nextFid) (k : Nat) :
    Inv cfg { s with files := n :: s.files, nextFid := s.nextFid + 1, nextCur := k } := by
  -- the new file is not on the chain: identities on the chain are below `nextFid`
  have hback : ∀ w, OnChain (n :: s.files) s.flips w → OnChain s.files s.flips w := by
    intro w hw
    have hlt : w.fid < s.nextFid := by
      rcases hw.2 with h0 | ⟨fl, hm, hf⟩
      · rw [h0]; exact hi.zeroLt
      · rw [← hf]; exact hi.newLt fl hm
    rcases List.mem_cons.mp hw.1 with hwn | hwm
    · rw [hwn, hn] at hlt
      exact absurd hlt (Nat.lt_irrefl _)
    · exact ⟨hwm, hw.2⟩
  have hfind : ∀ f, f < s.nextFid → (n :: s.files).find? (·.fid == f) = s.files.find? (·.fid == f) :=
    fun f hf => List.find?_cons_of_neg fun h => Nat.ne_of_gt hf (hn.symm.trans (eq_of_beq h))
  refine { hi with look := List.forall_mem_cons.mpr ⟨List.find?_cons_of_pos (beq_self_eq_true n.fid), fun v hv => ?_⟩,
                   fidLt := List.forall_mem_cons.mpr ⟨hn ▸ Nat.lt_succ_self _, fun v hv => Nat.lt_succ_of_lt (hi.fidLt v hv)⟩,
                   zeroLt := Nat.succ_pos _, newLt := fun fl hfl => Nat.lt_succ_of_lt (hi.newLt fl hfl), cur := ?_,
                   inj := fun v w hv hw => hi.inj v w (hback v hv) (hback w hw),
                   pcs := fun x => (hi.pcs x).mono (fun _ h => List.mem_cons_of_mem _ h) (fun _ h => h) (Nat.le_refl _)
                     (fun _ _ _ _ h => h) }
  · show (n :: s.files).find? _ = _
    rw [hfind _ (hi.fidLt v hv)]
    exact hi.look v hv
  · obtain ⟨v, hv1, hv2, hv3⟩ := hi.cur
    refine ⟨v, ?_, hv2, fun w hw => hv3 w (hback w hw)⟩
    have hlt : s.hint.fid < s.nextFid := by
      rw [← (find_some hv1).2]; exact hi.fidLt v (find_some hv1).1
    rw [hfind _ hlt]
    exact hv1

theorem inv_init (cfg : Cfg) (kind : Nat → Kind) : Inv cfg (init kind) :=
  have h0 : ∀ v ∈ (init kind).files, v = ⟨0, 0, 0, []⟩ := fun v hv => List.mem_singleton.mp hv
  { look := List.forall_mem_singleton.mpr rfl
    fidLt := List.forall_mem_singleton.mpr Nat.zero_lt_one
    zeroLt := Nat.zero_lt_one
    newLt := nofun
    etagLt := Nat.zero_lt_one
    flipsOk := nofun
    chain := trivial
    head := rfl
    cur := ⟨⟨0, 0, 0, []⟩, rfl, rfl, fun w hw => by rw [h0 w hw.1]; exact Nat.le_refl _⟩
    inj := fun v w hv hw _ => by rw [h0 v hv.1, h0 w hw.1]
    excl := fun _ x hx => hx.elim
    pcs := fun x => trivial }

/-- the commit point: a fenced committer whose ETag (where the flip is conditional) is still the hint's moves the pointer
to its new version -/
theorem Inv.flip {cfg : Cfg} (hcfg : cfg.exclusive = true ∨ cfg.cas = true) {s : Sys} (hi : Inv cfg s) {a : Nat} {b n : Ver}
    {e : Option Nat} (hp : s.pc a = .fenced b n e) (hs : StillCur cfg s.hint e) :
    Inv cfg { setPc s a (.flipped n) with
              hint := ⟨n.fid, s.nextEtag⟩, nextEtag := s.nextEtag + 1, flips := ⟨a, b.fid, s.hint.fid, n.fid⟩ :: s.flips } := by
  obtain ⟨hob, hn, hlu, happ, _, hsc⟩ := hi.pcAt hp
  have hfid : s.hint.fid = b.fid := hsc hs
  obtain ⟨v, hv1, hv2, hv3⟩ := hi.cur
  have hvb : v = b := by
    have := hi.look b hob.1
    rw [← hfid, hv1] at this
    exact Option.some.inj this
  subst hvb
  -- a chain version of the new state is the new head or an old chain version, and those are strictly older than the new head
  have hsplit : ∀ w, OnChain s.files ((⟨a, v.fid, s.hint.fid, n.fid⟩ : Flip) :: s.flips) w →
      w = n ∨ (OnChain s.files s.flips w ∧ w.lu < n.lu) := by
    intro w hw
    have hold : (w.fid = 0 ∨ ∃ fl ∈ s.flips, fl.new = w.fid) → w = n ∨ (OnChain s.files s.flips w ∧ w.lu < n.lu) :=
      fun h => Or.inr ⟨⟨hw.1, h⟩, Nat.lt_of_le_of_lt (hv3 w ⟨hw.1, h⟩) hlu⟩
    rcases hw.2 with h0 | ⟨fl, hfl, hf⟩
    · exact hold (Or.inl h0)
    · rcases List.mem_cons.mp hfl with hfl | hfl
      · have h1 := hi.look w hw.1
        rw [← hf, hfl, hi.look n hn] at h1
        exact Or.inl (Option.some.inj h1).symm
      · exact hold (Or.inr ⟨fl, hfl, hf⟩)
  -- `excl` speaks of `pc` and `holder` only, and those are the ones of `setPc s a (.flipped n)`: it is taken from `Inv.move`
  refine { hi with newLt := List.forall_mem_cons.mpr ⟨hi.fidLt n hn, hi.newLt⟩, etagLt := Nat.lt_succ_self _,
                   flipsOk := List.forall_mem_cons.mpr ⟨hfid.symm, hi.flipsOk⟩,
                   chain := hi.chain.cons hi.head, head := rfl, cur := ⟨n, hi.look n hn, ?_, fun w hw => ?_⟩,
                   inj := fun u w hu hw hl => ?_, excl := (hi.move (p := .flipped n) (fun _ => hp ▸ trivial) trivial).excl,
                   pcs := forall_update (fun x hxa => ?_) trivial }
  · show n.applied = (List.map (·.actor) (_ :: s.flips)).reverse
    rw [happ, hv2, List.map_cons, List.reverse_cons]
  · rcases hsplit w hw with hwn | ⟨_, hlt⟩
    · rw [hwn]; exact Nat.le_refl _
    · exact Nat.le_of_lt hlt
  · rcases hsplit u hu with hun | ⟨huo, hult⟩ <;> rcases hsplit w hw with hwn | ⟨hwo, hwlt⟩
    · rw [hun, hwn]
    · exact absurd hwlt (by rw [← hl, hun]; exact Nat.lt_irrefl _)
    · exact absurd hult (by rw [hl, hwn]; exact Nat.lt_irrefl _)
    · exact hi.inj u w huo hwo hl
  · refine (hi.pcs x).mono (fun _ h => h) (fun _ h => List.mem_cons_of_mem _ h) (Nat.le_succ _) (fun hcr e _ hok _ hs' => ?_)
    -- a bystander in the critical section cannot flip any more: its ETag is older than the new one (CAS),
    -- or there is no such bystander (exclusive lock)
    exfalso
    rcases hcfg with hx | hc
    · have h1 := hi.excl hx x hcr
      rw [hi.excl hx a (hp ▸ trivial)] at h1
      exact hxa (Option.some.inj h1).symm
    · exact Nat.lt_irrefl _ (hok _ (hs' hc))

theorem Inv.step {cfg : Cfg} (hcfg : LocalCfg cfg ∨ CasCfg cfg) {s s' : Sys} {a : Nat} {act : Act}
    (hi : Inv cfg s) (h : step cfg s a act = some s') : Inv cfg s' := by
  cases act with
  | tick d =>
    cases h
    exact { hi with }
  | readBase =>
    obtain ⟨b, _, hc, rfl⟩ := step_readBase h
    exact hi.move False.elim (hi.cur_onChain hc).1
  | acquire =>
    obtain ⟨b, hp, hfree, rfl⟩ := step_acquire h
    have hb : OnChain s.files s.flips b := hi.pcAt hp
    -- an exclusive lock is taken only when nobody holds it, so nobody else is in the critical section
    exact hi.frame (fun hx _ => if_pos hx) (fun hx x _ hcr => absurd (hi.excl hx x hcr) (by rw [hfree hx]; nofun)) hb
  | validate =>
    obtain ⟨b, c, hp, hc, ⟨_, hlu, rfl⟩ | rfl⟩ := step_validate h
    · obtain ⟨hoc, hcf⟩ := hi.cur_onChain hc
      have hb : OnChain s.files s.flips b := hi.pcAt hp
      -- the stamp identifies the version read as the base
      have hbc : b = c := hi.inj b c hb hoc hlu.symm
      refine hi.move (fun _ => hp ▸ trivial) ⟨hbc, hb, fun e0 he => ?_, fun _ => by rw [hbc, hcf]⟩
      split at he
      · cases he; exact hi.etagLt
      · cases he
    · exact hi.move (fun _ => hp ▸ trivial) trivial
  | etagRead =>
    -- the second pointer read exists in neither repaired configuration
    obtain ⟨b, c, hp, hx, rfl⟩ := step_etagRead h
    rcases hcfg with h | h
    · simp [h.1] at hx
    · simp [h.2.1] at hx
  | writeMeta t =>
    obtain ⟨b, c, e, hp, _, rfl⟩ := step_writeMeta h
    have hi' := hi.addFile (newVer cfg s a t b c) rfl (s.nextCur + 1)
    obtain ⟨hbc, hob, hek, hsc⟩ := hi'.pcAt hp
    refine hi'.move (fun _ => hp ▸ trivial) ⟨hob, List.mem_cons_self, ?_, rfl, hek, hsc⟩
    show b.lu < (if cfg.strictStamp = true then max t (c.lu + 1) else t)
    rw [if_pos (hcfg.elim (·.2.2) (·.2.2)), hbc]
    exact Nat.lt_of_lt_of_le (Nat.lt_succ_self _) (Nat.le_max_right _ _)
  | fence held =>
    obtain ⟨b, n, e, hp, _, rfl⟩ := step_fence h
    have hb := hi.pcAt hp
    cases held
    · exact hi.move (fun _ => hp ▸ trivial) trivial
    · exact hi.move (fun _ => hp ▸ trivial) hb
  | flip =>
    obtain ⟨b, n, e, hp, ⟨hs, rfl⟩ | ⟨_, _, rfl⟩⟩ := step_flip h
    · exact hi.flip (hcfg.imp (·.2.1) (·.1)) hp hs
    · exact hi.move (fun _ => hp ▸ trivial) trivial
  | release retry =>
    obtain ⟨⟨n, hp⟩, rfl⟩ | ⟨hp, rfl⟩ := step_release h
    · exact hi.release (hp ▸ trivial) id trivial
    · cases retry <;> exact hi.release (hp ▸ trivial) id trivial

theorem Inv.serial {cfg : Cfg} {s : Sys} (hi : Inv cfg s) : FlipsOk s ∧ Chain s.flips ∧ s.hint.fid = headFid s.flips :=
  ⟨hi.flipsOk, hi.chain, hi.head⟩

theorem inv_reach {cfg : Cfg} {kind : Nat → Kind} (hcfg : LocalCfg cfg ∨ CasCfg cfg) {s : Sys}
    (hr : Reach cfg kind s) : Inv cfg s := by
  induction hr with
  | init => exact inv_init cfg kind
  | step a act _ hs ih => exact ih.step hcfg hs

end DSV.Occ

/-! ## the protocol order

The program counter of `step` admits the protocol steps in ONE order only, so a skeleton theorem "the source performs the steps
in the order acquire, validate, writeMeta, fence, flip, release" (C01) says the source follows the only path on which the model
lets a committer reach its commit point.  One half is `Src.C01.occ_enabled_order` in `DSV/Props/C01.lean`: each step is enabled
only at the program point its predecessor leaves.  The other half is the lemma below. -/
namespace DSV.Skel
open DSV.Occ

/-- each protocol step leaves the program point the next one needs (or a conflict) -/
theorem occ_successor' (cfg : Cfg) (s s' : Sys) (a : Nat) (act : Act) (h : step cfg s a act = some s') :
    match act with
    | .acquire => ∃ b, s'.pc a = .locked b
    | .validate => (∃ b c e, s'.pc a = .validated b c e) ∨ s'.pc a = .conflict
    | .writeMeta _ => ∃ b n e, s'.pc a = .wrote b n e
    | .fence _ => (∃ b n e, s'.pc a = .fenced b n e) ∨ s'.pc a = .conflict
    | .flip => (∃ n, s'.pc a = .flipped n) ∨ s'.pc a = .conflict
    | _ => True := by
  cases act with
  | acquire =>
    obtain ⟨b, _, _, rfl⟩ := step_acquire h
    exact ⟨b, if_pos rfl⟩
  | validate =>
    obtain ⟨b, c, _, _, ⟨_, _, rfl⟩ | rfl⟩ := step_validate h
    · exact Or.inl ⟨b, c, _, if_pos rfl⟩
    · exact Or.inr (if_pos rfl)
  | writeMeta t =>
    obtain ⟨b, c, e, _, _, rfl⟩ := step_writeMeta h
    exact ⟨b, _, e, if_pos rfl⟩
  | fence held =>
    obtain ⟨b, n, e, _, _, rfl⟩ := step_fence h
    cases held
    · exact Or.inr (if_pos rfl)
    · exact Or.inl ⟨b, n, e, if_pos rfl⟩
  | flip =>
    obtain ⟨b, n, e, _, ⟨_, rfl⟩ | ⟨_, _, rfl⟩⟩ := step_flip h
    · exact Or.inl ⟨n, if_pos rfl⟩
    · exact Or.inr (if_pos rfl)
  | _ => trivial

end DSV.Skel
