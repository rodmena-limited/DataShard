/-! The models keep per-actor state in functions `Nat → α` that a step updates at one actor (`setPc`, `setInst`, `setCl`, `setFile`). -/
namespace DSV

theorem forall_update {α : Type} {P : Nat → α → Prop} {f : Nat → α} {a : Nat} {v : α}
    (h : ∀ x, x ≠ a → P x (f x)) (hv : P a v) : ∀ x, P x (if x = a then v else f x) := by
  intro x
  split
  · next hx => exact hx ▸ hv
  · next hx => exact h x hx

end DSV
