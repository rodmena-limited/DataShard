import DSV.Model.Skeleton
import DSV.Generated.Skeleton
/-!
Steps of the transaction layer that more than one property reads off the generated skeletons: C04 and C06 read
`Transaction.commit`, C06 and C16 read `append_files`.  Each projection is evaluated here, and the property files rewrite with it.
-/
namespace DSV.Skel
open DSV.Generated.Skel

theorem txCommit_steps :
    project txVoc txCommit = ["finish", "commit", "commit", "finish",
                              "onConflict", "rollbackDelete", "onAmbiguous", "rollbackKeep",
                              "onError", "rollbackDelete", "onInterrupt", "rollbackKeep", "rollbackDelete"] := by decide +kernel

theorem txAppendFiles_steps :
    project txVoc txAppendFiles = ["marker", "exists", "persist", "schema", "queue"] := by decide +kernel

end DSV.Skel
