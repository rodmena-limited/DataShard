import DSV.Model.Filter
/-! Helper lemmas for the filter model (C12, C13). -/
namespace DSV.Filter

def NoNanInSet (e : Expr) : Prop := V.nan ∉ e.set
def NoNan (xs : List V) : Prop := V.nan ∉ xs

theorem mem_dropNull {x : V} {vs : List V} : x ∈ dropNull vs ↔ x ∈ vs ∧ x ≠ V.null := by
  simp [dropNull]

theorem memArrow_eq_memSql (x : V) (vs : List V) (h : V.nan ∉ vs) : memArrow x vs = memSql x vs := by
  rw [Bool.eq_iff_iff, memArrow, memSql, List.any_eq_true, List.any_eq_true]
  refine exists_congr fun s => and_congr_right fun hs => ?_
  -- the two equalities differ on (NaN, NaN) only
  cases s
  case nan => exact absurd hs h
  all_goals cases x <;> rfl

theorem nan_not_mem_dropNull {vs : List V} (h : V.nan ∉ vs) : V.nan ∉ dropNull vs :=
  fun m => h (mem_dropNull.mp m).1

theorem kand_true {a b : Option Bool} : kand a b = some true ↔ a = some true ∧ b = some true := by
  rcases a with _ | _ | _ <;> rcases b with _ | _ | _ <;> simp [kand]

theorem keeps_and (a b : AExp) (r : Row) : keeps (.and a b) r = (keeps a r && keeps b r) := by
  rw [Bool.eq_iff_iff]
  simp [keeps, evalArrow, kand_true]

theorem ofBool_eq_t (b : Bool) : Tri.ofBool b = .t ↔ b = true := by cases b <;> simp [Tri.ofBool]

/-- a comparison, as `build` and `evalSqlV` treat it in their last rows: Arrow and SQL guard the same `cmpNN` by the same NULL
test -/
theorem cmp_is_sql (op : Op) (c : Nat) (lit : V) (r : Row) :
    keeps (.cmp op c lit) r = true ↔
      (if r c == V.null || lit == V.null then Tri.u else Tri.ofBool (cmpNN op (r c) lit)) = Tri.t := by
  unfold keeps evalArrow
  split <;> simp [ofBool_eq_t]

/-- `in` / `not in` over a NaN-free value set: the `valid` conjunct drops the NULL rows, which SQL leaves unknown, and `is_in`
is SQL membership -/
theorem in_is_sql (c : Nat) (lit : V) (set : List V) (r : Row) (hn : V.nan ∉ set) :
    (keeps (build ⟨c, .isIn, lit, set⟩) r = true ↔ evalSql ⟨c, .isIn, lit, set⟩ r = Tri.t) ∧
    (keeps (build ⟨c, .notIn, lit, set⟩) r = true ↔ evalSql ⟨c, .notIn, lit, set⟩ r = Tri.t) := by
  have hn' := nan_not_mem_dropNull hn
  simp only [build, evalSql, evalSqlV]
  generalize dropNull set = vs at hn' ⊢
  by_cases hx : r c = V.null
  · cases vs <;> simp [keeps, evalArrow, kand, hx]
  · cases vs with
    | nil => simp [keeps, evalArrow, hx, memSql, ofBool_eq_t]
    | cons v vs => simp [keeps, evalArrow, kand_true, hx, ofBool_eq_t, memArrow_eq_memSql _ _ hn']

theorem chunksAux_flatten (n fuel : Nat) (xs : List α) (h : xs.length ≤ fuel) :
    (chunksAux n fuel xs).flatten = xs := by
  -- the three equations of `chunksAux`: no fuel, empty list, one chunk taken off
  fun_induction chunksAux n fuel xs
  case case1 => exact (List.eq_nil_of_length_eq_zero (Nat.le_zero.1 h)).symm
  case case2 => rfl
  case case3 fuel xs hne ih =>
    rw [List.flatten_cons, ih (by rw [List.length_drop]; omega), List.take_append_drop]

theorem chunks_flatten (n : Nat) (xs : List α) : (chunks n xs).flatten = xs :=
  chunksAux_flatten n xs.length xs (Nat.le_refl _)

theorem listMin_eq_min? (xs : List Int) : listMin xs = xs.min? := by cases xs <;> rfl

theorem listMax_eq_max? (xs : List Int) : listMax xs = xs.max? := by cases xs <;> rfl

theorem listMin_le {xs : List Int} {lo : Int} (h : listMin xs = some lo) : ∀ a ∈ xs, lo ≤ a := by
  rw [listMin_eq_min?] at h
  exact (List.min?_eq_some_iff.1 h).2

theorem le_listMax {xs : List Int} {hi : Int} (h : listMax xs = some hi) : ∀ a ∈ xs, a ≤ hi := by
  rw [listMax_eq_max?] at h
  exact (List.max?_eq_some_iff.1 h).2

theorem mem_vals {xs : List V} {a : Int} : a ∈ vals xs ↔ V.val a ∈ xs := by
  simp only [vals, List.mem_filterMap]
  constructor
  · rintro ⟨x, hx, h⟩
    cases x <;> simp_all
  · intro h; exact ⟨_, h, rfl⟩

theorem rgStatsV_range {xs : List V} {lo hi : Int} : rgStatsV xs = .range lo hi →
    ∀ a, V.val a ∈ xs → lo ≤ a ∧ a ≤ hi := by
  -- case1: both extrema exist (its hypotheses come as the maximum's, then the minimum's); case2: no value, no range
  fun_cases rgStatsV xs
  case case1 hu hl =>
    rintro ⟨⟩ a ha
    exact ⟨listMin_le hl a (mem_vals.mpr ha), le_listMax hu a (mem_vals.mpr ha)⟩
  case case2 => nofun

theorem bounds_range {xs : List V} {lo hi : Int} (h : bounds xs = .range lo hi) :
    V.nan ∉ xs ∧ ∀ a, V.val a ∈ xs → lo ≤ a ∧ a ≤ hi := by
  unfold bounds at h
  split at h
  · cases h
  · rename_i hnan
    exact ⟨fun hm => hnan (List.any_eq_true.2 ⟨_, hm, rfl⟩), rgStatsV_range h⟩

theorem bounds_ne_nanB (xs : List V) : bounds xs ≠ .nanB := by
  fun_cases bounds xs <;> nofun

theorem evalSqlV_null {e : Expr} (h : evalSqlV e .null = .t) : e.op = .isNull := by
  obtain ⟨c, op, lit, set⟩ := e
  cases op
  case isNull => rfl
  all_goals cases h

/-- outside `in` / `not in` the two verdicts are each other's negation, row by row of the two tables -/
theorem mayMatch1_range (lo hi : Int) (e : Expr) (h1 : e.op ≠ .isIn) (h2 : e.op ≠ .notIn) :
    mayMatch1 (.range lo hi) e = !pushSkip1 (.range lo hi) e := by
  obtain ⟨c, op, lit, set⟩ := e
  cases op
  case isIn => exact absurd rfl h1
  case notIn => exact absurd rfl h2
  all_goals cases lit <;> rfl

/-- a skip verdict from `[lo, hi]` is right about every value inside -/
theorem pushSkip1_val_sound {lo hi a : Int} (h1 : lo ≤ a) (h2 : a ≤ hi) (e : Expr)
    (hp : pushSkip1 (.range lo hi) e = true) : evalSqlV e (.val a) ≠ .t := by
  obtain ⟨c, op, lit, set⟩ := e
  cases op
  case isIn | isNull | isNotNull => cases hp
  case notIn =>
    -- `lo = hi` is in the set, so `a` is
    simp only [pushSkip1, Bool.and_eq_true, beq_iff_eq, List.any_eq_true] at hp
    obtain ⟨hlh, s, hs, rfl⟩ := hp
    have : memSql (V.val a) (dropNull set) = true :=
      List.any_eq_true.2 ⟨_, hs, by simp [eqSql]; omega⟩
    simp [evalSqlV, ofBool_eq_t, this]
  -- the six comparisons: only against a `val` literal does `pushSkip1` ever skip
  all_goals
    cases lit
    case val v => simp [pushSkip1, evalSqlV, ofBool_eq_t, cmpNN] at hp ⊢; omega
    all_goals cases hp

end DSV.Filter
