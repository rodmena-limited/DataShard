import DSV.Model.Fs
/-! Proofs behind `DSV/Props/C16.lean` and, through `DSV/Proofs/FsCrash.lean`, `DSV/Props/C03.lean`.
Frames are stated with `Foreign`, which is `Untouched` (the predicate in the statement of `durable_stable`) made stricter at
`.fsync`: one per-event lemma (`foreign_apply`) and one lift to traces (`run_foreign`). -/
namespace DSV.Fs

/-- the event does not create, write, rename or unlink path `p` -/
def Untouched (p : Nat) : Ev → Prop
  | .creat q _ => q ≠ p
  | .write q => q ≠ p
  | .fsync _ => True
  | .rename src dst => src ≠ p ∧ dst ≠ p
  | .fsyncDir _ => True
  | .unlink q => q ≠ p

/-- the event names no PATH equal to `p` — `Untouched`, and not an fsync of `p` itself either, which may change
`contentDurable`; its directory argument is free, so a directory fsync can still reach `p`'s entry (`SameUpToEntry`) -/
def Foreign (p : Nat) : Ev → Prop
  | .fsync q => q ≠ p
  | e => Untouched p e

/-- `a` is `b` except that its directory entry may have become durable -/
def SameUpToEntry (a b : PathSt) : Prop :=
  a.present = b.present ∧ a.written = b.written ∧ a.contentDurable = b.contentDurable ∧ a.dir = b.dir ∧
    (b.entryDurable = true → a.entryDurable = true)

/-- ids of a commit are pairwise distinct and every final path knows its directory -/
structure WfCommit (files : List W) (hint : W) (s : St) : Prop where
  finNodup : ((files ++ [hint]).map (·.fin)).Nodup
  tmpNodup : ((files ++ [hint]).map (·.tmp)).Nodup
  disjoint : ∀ a ∈ files ++ [hint], ∀ b ∈ files ++ [hint], a.tmp ≠ b.fin
  dirs : ∀ w ∈ files ++ [hint], (s w.fin).dir = w.dir

theorem SameUpToEntry.refl (a : PathSt) : SameUpToEntry a a := ⟨rfl, rfl, rfl, rfl, id⟩

theorem SameUpToEntry.trans {a b c : PathSt} (h1 : SameUpToEntry a b) (h2 : SameUpToEntry b c) : SameUpToEntry a c := by
  obtain ⟨hpres, hwr, hcd, hdir, hent⟩ := h1
  obtain ⟨hpres', hwr', hcd', hdir', hent'⟩ := h2
  exact ⟨hpres.trans hpres', hwr.trans hwr', hcd.trans hcd', hdir.trans hdir', fun h => hent (hent' h)⟩

theorem SameUpToEntry.durable {s s' : St} {p : Nat} (h : SameUpToEntry (s' p) (s p)) (hd : Durable s p) : Durable s' p := by
  obtain ⟨hpres, hwr, hcd, -, hent⟩ := h
  obtain ⟨dpres, dwr, dcd, dent⟩ := hd
  exact ⟨hpres.trans dpres, hwr.trans dwr, hcd.trans dcd, hent dent⟩

@[simp] theorem set_same (s : St) (p : Nat) (v : PathSt) : set s p v p = v := by simp [set]

@[simp] theorem set_other (s : St) (p x : Nat) (v : PathSt) (h : x ≠ p) : set s p v x = s x := by
  simp [set, h]

theorem run_nil (s : St) : run s [] = s := rfl

theorem run_cons (s : St) (e : Ev) (evs : List Ev) : run s (e :: evs) = run (apply s e) evs := rfl

theorem run_append (s : St) (a b : List Ev) : run s (a ++ b) = run (run s a) b := by
  simp [run]

theorem foreign_apply (s : St) (p : Nat) (e : Ev) (hf : Foreign p e) : SameUpToEntry (apply s e p) (s p) := by
  cases e with
  | fsyncDir d => simp only [apply]; split <;> simp [SameUpToEntry]
  | rename a b => simp [apply, Ne.symm hf.1, Ne.symm hf.2, SameUpToEntry.refl]
  | creat q _ | write q | fsync q | unlink q => simp [apply, Ne.symm hf, SameUpToEntry.refl]

theorem run_foreign (p : Nat) (evs : List Ev) : ∀ s : St, (∀ e ∈ evs, Foreign p e) →
    SameUpToEntry (run s evs p) (s p) := by
  induction evs with
  | nil => exact fun _ _ => SameUpToEntry.refl _
  | cons e rest ih =>
    intro s h
    obtain ⟨he, hrest⟩ := List.forall_mem_cons.1 h
    exact (ih _ hrest).trans (foreign_apply s p e he)

theorem run_take_foreign (p : Nat) (evs : List Ev) (k : Nat) (s : St) (h : ∀ e ∈ evs, Foreign p e) :
    SameUpToEntry (run s (evs.take k) p) (s p) :=
  run_foreign p _ s fun e he => h e (List.mem_of_mem_take he)

theorem forall_mem_lowerWrite {t p d : Nat} {P : Ev → Prop} :
    (∀ e ∈ lowerWrite t p d, P e) ↔ P (.creat t d) ∧ P (.write t) ∧ P (.fsync t) ∧ P (.rename t p) ∧ P (.fsyncDir d) := by
  simp [lowerWrite]

theorem lowerWrite_foreign (t p d q : Nat) (ht : t ≠ q) (hp : p ≠ q) : ∀ e ∈ lowerWrite t p d, Foreign q e :=
  forall_mem_lowerWrite.2 ⟨ht, ht, ht, ⟨ht, hp⟩, trivial⟩

theorem lowerWrite_no_flip (t p d hint : Nat) (hp : p ≠ hint) : ∀ e ∈ lowerWrite t p d, flipsTo hint e = false :=
  forall_mem_lowerWrite.2 ⟨rfl, rfl, rfl, beq_false_of_ne hp, rfl⟩

theorem lowerWrite_durable (s : St) (t p d : Nat) (h : t ≠ p) (hd : (s p).dir = d) :
    Durable (run s (lowerWrite t p d)) p := by
  have h' : p ≠ t := Ne.symm h
  subst hd
  simp [run, lowerWrite, apply, Durable, h']

/-- before the rename, the lowering of a write does not change the target at all: the three events only `set` the temp -/
theorem lowerWrite_before_rename (s : St) (t p d : Nat) (h : t ≠ p) (k : Nat) (hk : k ≤ 3) :
    run s ((lowerWrite t p d).take k) p = s p := by
  have h' : p ≠ t := Ne.symm h
  match k, hk with
  | 0, _ | 1, _ | 2, _ | 3, _ => simp [run, lowerWrite, apply, h']

theorem judge_go_nil (hint : Nat) (reach : List Nat) (s : St) (fl : Bool) (i : Nat) :
    judge.go hint reach s fl i [] = none := rfl

theorem judge_go_cons (hint : Nat) (reach : List Nat) (s : St) (fl : Bool) (i : Nat) (e : Ev) (rest : List Ev) :
    judge.go hint reach s fl i (e :: rest) =
      if ((fl || flipsTo hint e) && !(reach.all fun p => decide (Durable (apply s e) p))) = true then some i
      else judge.go hint reach (apply s e) (fl || flipsTo hint e) (i + 1) rest := rfl

theorem judge_go_cons_none (hint : Nat) (reach : List Nat) (s : St) (fl : Bool) (i : Nat) (e : Ev) (rest : List Ev) :
    judge.go hint reach s fl i (e :: rest) = none ↔
      ((fl || flipsTo hint e) = true → ∀ p ∈ reach, Durable (apply s e) p) ∧
        judge.go hint reach (apply s e) (fl || flipsTo hint e) (i + 1) rest = none := by
  have hall : (reach.all fun p => decide (Durable (apply s e) p)) = true ↔ ∀ p ∈ reach, Durable (apply s e) p := by simp
  rw [judge_go_cons, ← hall]
  cases (fl || flipsTo hint e) <;> cases (reach.all fun p => decide (Durable (apply s e) p)) <;> simp

/-- what an accepting run of the judge has checked: every non-empty prefix that is flagged (on entry, or by a rename onto
the pointer inside the prefix) ends in a state where all of `reach` is durable -/
theorem judge_go_sound {hint : Nat} {reach : List Nat} {evs : List Ev} {s : St} {fl : Bool} {i : Nat}
    (h : judge.go hint reach s fl i evs = none) {k : Nat} (hk : k < evs.length)
    (hfl : (fl || (evs.take (k + 1)).any (flipsTo hint)) = true) : ∀ p ∈ reach, Durable (run s (evs.take (k + 1))) p := by
  induction evs generalizing s fl i k with
  | nil => exact absurd hk (Nat.not_lt_zero k)
  | cons e rest ih =>
    obtain ⟨h1, h2⟩ := (judge_go_cons_none ..).1 h
    rw [List.take_succ_cons, List.any_cons, ← Bool.or_assoc] at hfl
    cases k with
    | zero => rw [List.take_zero, List.any_nil, Bool.or_false] at hfl; exact h1 hfl
    | succ k => exact ih h2 (Nat.lt_of_succ_lt_succ hk) hfl

/-- a prefix without a rename onto the pointer is skipped by the judge -/
theorem judge_go_no_flip_append {hint : Nat} {reach : List Nat} {a b : List Ev} {s : St} {i : Nat}
    (ha : ∀ e ∈ a, flipsTo hint e = false) (hb : ∀ i', judge.go hint reach (run s a) false i' b = none) :
    judge.go hint reach s false i (a ++ b) = none := by
  induction a generalizing s i with
  | nil => exact hb i
  | cons e rest ih =>
    obtain ⟨he, hrest⟩ := List.forall_mem_cons.1 ha
    rw [List.cons_append, judge_go_cons_none, he]
    exact ⟨fun hf => (nomatch hf), ih hrest hb⟩

theorem judge_go_foreign {hint : Nat} {reach : List Nat} {evs : List Ev} {s : St} {fl : Bool} {i : Nat}
    (hd : ∀ p ∈ reach, Durable s p) (hf : ∀ e ∈ evs, ∀ p ∈ reach, Foreign p e) :
    judge.go hint reach s fl i evs = none := by
  induction evs generalizing s fl i with
  | nil => rfl
  | cons e rest ih =>
    obtain ⟨he, hrest⟩ := List.forall_mem_cons.1 hf
    have hd' : ∀ p ∈ reach, Durable (apply s e) p := fun p hp => (foreign_apply s p e (he p hp)).durable (hd p hp)
    exact (judge_go_cons_none ..).2 ⟨fun _ => hd', ih hd' hrest⟩

theorem WfCommit.fin_pairwise {files : List W} {hint : W} {s : St} (hwf : WfCommit files hint s) :
    files.Pairwise (fun a b => a.fin ≠ b.fin) ∧ ∀ w ∈ files, w.fin ≠ hint.fin := by
  have h := List.pairwise_map.1 hwf.finNodup
  rw [List.pairwise_append] at h
  exact ⟨h.1, fun w hw => h.2.2 w hw hint (List.mem_singleton.2 rfl)⟩

theorem WfCommit.pointer_tmp_ne {files : List W} {hint : W} {s : St} (hwf : WfCommit files hint s) :
    hint.tmp ≠ hint.fin :=
  hwf.disjoint hint List.mem_concat_self hint List.mem_concat_self

theorem WfCommit.pointer_foreign {files : List W} {hint : W} {s : St} (hwf : WfCommit files hint s) :
    ∀ w ∈ files, ∀ e ∈ lowerWrite hint.tmp hint.fin hint.dir, Foreign w.fin e := fun w hw =>
  lowerWrite_foreign hint.tmp hint.fin hint.dir w.fin
    (hwf.disjoint hint List.mem_concat_self w (List.mem_append_left _ hw))
    (Ne.symm (hwf.fin_pairwise.2 w hw))

theorem WfCommit.files_durable {files : List W} {hint : W} {s : St} (hwf : WfCommit files hint s) :
    ∀ w ∈ files, Durable (run s (files.flatMap (fun w => lowerWrite w.tmp w.fin w.dir))) w.fin := by
  intro w hw
  have hmem : ∀ b ∈ files, b ∈ files ++ [hint] := fun b hb => List.mem_append_left _ hb
  have hforeign : ∀ b ∈ files, b.fin ≠ w.fin → ∀ e ∈ lowerWrite b.tmp b.fin b.dir, Foreign w.fin e := fun b hb =>
    lowerWrite_foreign b.tmp b.fin b.dir w.fin (hwf.disjoint b (hmem b hb) w (hmem w hw))
  have hfin := hwf.fin_pairwise.1
  obtain ⟨as, bs, rfl⟩ := List.append_of_mem hw
  rw [List.pairwise_append, List.pairwise_cons] at hfin
  obtain ⟨-, ⟨hafter, -⟩, hbefore⟩ := hfin
  -- the writes before `w` leave its directory alone, its own makes it durable, the writes after it keep it so
  rw [List.flatMap_append, List.flatMap_cons, run_append, run_append]
  refine (run_foreign w.fin _ _ (List.forall_mem_flatMap.2 fun b hb =>
      hforeign b (List.mem_append_right _ (List.mem_cons_of_mem _ hb)) (Ne.symm (hafter b hb)))).durable
    (lowerWrite_durable _ w.tmp w.fin w.dir (hwf.disjoint w (hmem w hw) w (hmem w hw)) ?_)
  obtain ⟨-, -, -, hdir, -⟩ := run_foreign w.fin _ s (List.forall_mem_flatMap.2 fun b hb =>
    hforeign b (List.mem_append_left _ hb) (hbefore b hb w List.mem_cons_self))
  exact hdir.trans (hwf.dirs w (hmem w hw))

end DSV.Fs
