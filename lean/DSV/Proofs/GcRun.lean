import DSV.Model.GcRun
/-! Proofs behind `DSV/Props/C07.lean`. -/
namespace DSV.GcRun

theorem mem_sweep {keep : List FileKey} {l : List Listed} {k : FileKey} :
    k ∈ sweep keep l ↔ k ∉ keep ∧ ∃ f ∈ l, f.key = k ∧ f.statOk = true ∧ f.old = true ∧ f.delOk = true := by
  simp only [sweep, List.mem_map, List.mem_filter, Bool.and_eq_true, Bool.not_eq_true', List.contains_eq_mem,
    decide_eq_false_iff_not]
  constructor
  · rintro ⟨f, ⟨hf, ⟨⟨hk, h1⟩, h2⟩, h3⟩, rfl⟩
    exact ⟨hk, f, hf, rfl, h1, h2, h3⟩
  · rintro ⟨hk, f, hf, rfl, h1, h2, h3⟩
    exact ⟨f, ⟨hf, ⟨⟨hk, h1⟩, h2⟩, h3⟩, rfl⟩

theorem markerTargets_fixed (m : Marker) : markerTargets fixed m = trueTargets m := by
  simp [markerTargets, trueTargets, fixed]

theorem mem_protectedSet {ms : List Marker} {f : FileKey} :
    f ∈ protectedSet fixed ms ↔ ∃ m ∈ ms, (m.stat ≠ some false ∨ m.delOk = false) ∧ f ∈ trueTargets m := by
  unfold protectedSet
  rw [List.mem_flatMap]
  refine exists_congr fun m => and_congr_right fun _ => ?_
  rw [markerTargets_fixed]
  split
  · next hst => cases m.delOk <;> simp [hst]
  · next hne => exact (and_iff_right (Or.inl hne)).symm

/-- every run either raises having deleted nothing, or passed every check and returns the two sweeps -/
theorem collect_fixed_cases {i : Input} {o : Out} (h : collect fixed i = o) :
    o = .raised [] ∨
    ∃ ms dl ml, i.metaOk = true ∧ i.hintDangling = false ∧ i.reachReads.any (· == false) = false ∧
      i.markers = some ms ∧ i.dataListing = some dl ∧ i.manListing = some ml ∧
      (dl.any (·.escapes) || ml.any (·.escapes)) = false ∧
      o = .returned (sweep (i.reachable ++ protectedSet fixed ms) dl ++ sweep (i.reachable ++ protectedSet fixed ms) ml) := by
  subst h
  unfold collect
  cases hm : i.metaOk
  case false => exact .inl rfl
  cases hh : i.hintDangling
  case true => exact .inl rfl
  cases hr : i.reachReads.any (· == false)
  case true => exact .inl rfl
  cases hmk : i.markers
  case none => exact .inl rfl
  cases hd : i.dataListing
  case none => exact .inl rfl
  cases hml : i.manListing
  case none => exact .inl rfl
  rename_i ms dl ml
  cases he : (dl.any (·.escapes) || ml.any (·.escapes))
  case true => exact .inl (by simp [fixed, he])
  exact .inr ⟨ms, dl, ml, rfl, rfl, rfl, rfl, rfl, rfl, he, by simp [fixed, he]⟩

end DSV.GcRun
